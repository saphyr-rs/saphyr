import SaphyrModel.Proofs.ParserSteps
/-! The parser invents no positions (C12, parser half): every span it attaches to an event is the
span of one of the tokens it was given, or the empty span at the end of one of them; every error it
raises itself points at the start of one of those tokens (the only other error it can return is
the scanner's latched one). For every token list and every parser state. -/
namespace SaphyrModel.Sp

def SpanOf (T : List Token) (sp : Span) : Prop :=
  (∃ t ∈ T, sp = t.span) ∨ (∃ t ∈ T, sp = Span.empty t.span.stop)

theorem SpanOf.elim {T : List Token} {sp : Span} (P : Span → Prop) (h : SpanOf T sp)
    (h1 : ∀ t ∈ T, P t.span) (h2 : ∀ t ∈ T, P (Span.empty t.span.stop)) : P sp := by
  rcases h with ⟨t, ht, rfl⟩ | ⟨t, ht, rfl⟩
  · exact h1 t ht
  · exact h2 t ht

/-- a state that remembers a position remembers the end of a token of `T` -/
def StOk (T : List Token) : State → Prop
  | .flowSequenceEntryMappingEnd m => ∃ t ∈ T, m = t.span.stop
  | _ => True

structure SInv (T : List Token) (se : Option ScanError) (eof : Marker) (p : PState) : Prop where
  toks : ∀ t ∈ p.toks, t ∈ T
  st : StOk T p.state
  sts : ∀ s ∈ p.states, StOk T s
  serr : p.scanErr = se
  eofm : p.eofMark = eof

def ErrOf (T : List Token) (se : Option ScanError) (eof : Marker) (e : ScanError) : Prop :=
  (∃ t ∈ T, e.mark = t.span.start) ∨ e = se.getD ⟨eof, "unexpected eof"⟩

def StepOk (T : List Token) (se : Option ScanError) (eof : Marker) : Res Out → Prop
  | .ok (_, sp, p') => SpanOf T sp ∧ SInv T se eof p'
  | .err e => ErrOf T se eof e
  | .panic _ => True

variable {T : List Token} {se : Option ScanError} {eof : Marker}

theorem SInv.adv {p q : PState} (h : SInv T se eof p) (ha : Adv p q) : SInv T se eof q := by
  obtain ⟨k, tg, rfl⟩ := ha
  exact ⟨fun t ht => h.toks t (List.mem_of_mem_drop ht), h.st, h.sts, h.serr, h.eofm⟩
theorem SInv.err {p : PState} {e : ScanError} (h : SInv T se eof p) (he : AdvErr p e) : ErrOf T se eof e := by
  rcases he with rfl | ⟨t, ht, he⟩
  · exact Or.inr (by simp [PState.latched, h.serr, h.eofm])
  · exact Or.inl ⟨t, h.toks t ht, he⟩
theorem SInv.setState {p : PState} (h : SInv T se eof p) (s : State) (hs : StOk T s := by trivial) :
    SInv T se eof { p with state := s } := ⟨h.toks, hs, h.sts, h.serr, h.eofm⟩
theorem SInv.skipTok {p : PState} (h : SInv T se eof p) : SInv T se eof (skipTok p) := h.adv (Adv.skip p)
theorem SInv.push {p : PState} (h : SInv T se eof p) (s : State) (hs : StOk T s := by trivial) :
    SInv T se eof (pushState p s) :=
  ⟨h.toks, h.st, List.forall_mem_cons.2 ⟨hs, h.sts⟩, h.serr, h.eofm⟩
theorem SInv.reg {p : PState} (h : SInv T se eof p) (n : Str) : SInv T se eof (registerAnchor p n).2 :=
  ⟨h.toks, h.st, h.sts, h.serr, h.eofm⟩
theorem SInv.clearTags {p : PState} (h : SInv T se eof p) : SInv T se eof (clearTags p) := by
  unfold SaphyrModel.clearTags; split
  · exact h
  · exact ⟨h.toks, h.st, h.sts, h.serr, h.eofm⟩
theorem SInv.clearAnchors {p : PState} (h : SInv T se eof p) : SInv T se eof (clearAnchors p) :=
  ⟨h.toks, h.st, h.sts, h.serr, h.eofm⟩

theorem StepOk.bind {α : Type} {p : PState} {m : Res α} {f : α → Res Out} {C : α → Prop} (hinv : SInv T se eof p)
    (hm : m.Sat C (AdvErr p) False) (hf : ∀ a, C a → StepOk T se eof (f a)) : StepOk T se eof (m >>= f) := by
  cases m with
  | ok a => exact hf a hm
  | err e => exact hinv.err hm
  | panic x => trivial

theorem StepOk.bindPeek {p : PState} {f : Token → Res Out} (hinv : SInv T se eof p)
    (h : ∀ t, t ∈ p.toks → t ∈ T → StepOk T se eof (f t)) : StepOk T se eof (peekTok p >>= f) :=
  StepOk.bind hinv (peekTok_adv p) fun t ht => h t ht (hinv.toks t ht)

theorem StepOk.bindAdv {p : PState} {m : Res PState} {f : PState → Res Out} (hinv : SInv T se eof p)
    (hm : m.Sat (Adv p) (AdvErr p) False) (h : ∀ q, SInv T se eof q → StepOk T se eof (f q)) :
    StepOk T se eof (m >>= f) :=
  StepOk.bind hinv hm fun q hq => h q (hinv.adv hq)

theorem StepOk.emit {t : Token} {ev : Event} {q : PState} (ht : t ∈ T) (hq : SInv T se eof q) :
    StepOk T se eof (.ok (ev, t.span, q)) := ⟨Or.inl ⟨t, ht, rfl⟩, hq⟩

theorem SInv.pop {p q : PState} (h : SInv T se eof p) (hq : popState p = .ok q) : SInv T se eof q := by
  obtain ⟨k, r, hs, rfl⟩ := (popState_sat p).ok hq
  exact ⟨h.toks, h.sts k (by simp [hs]), fun x hx => h.sts x (by simp [hs, hx]), h.serr, h.eofm⟩

theorem StepOk.pop {t : Token} {ev : Event} {p : PState} {f : PState → PState} (hf : f = id ∨ f = skipTok)
    (hinv : SInv T se eof p) (ht : t ∈ T) : StepOk T se eof (popState p >>= fun q => .ok (ev, t.span, f q)) := by
  cases hp : popState p with
  | ok q =>
    rcases hf with rfl | rfl
    · exact StepOk.emit ht (hinv.pop hp)
    · exact StepOk.emit ht (hinv.pop hp).skipTok
  | err e => exact ((popState_sat p).err hp).elim
  | panic x => trivial

theorem errTok {t : Token} (ht : t ∈ T) (msg : String) : ErrOf T se eof ⟨t.span.start, msg⟩ := Or.inl ⟨t, ht, rfl⟩

theorem parseNodeContent_sp {p : PState} (hinv : SInv T se eof p) (b i : Bool) (aid : Nat) (tag : Option Tag) :
    StepOk T se eof (parseNodeContent p b i aid tag) :=
  parseNodeContent_elim p b i aid tag (fun _ he => hinv.err he)
    (fun t _ ht hK => StepOk.emit (hinv.toks t ht) (hinv.setState _ (by rcases hK with rfl | rfl | rfl <;> trivial)))
    (fun t _ ht hK => StepOk.emit (hinv.toks t ht) (hinv.setState _ (by rcases hK with rfl | rfl <;> trivial)))
    fun t _ _ _ ht hf => StepOk.pop hf hinv (hinv.toks t ht)

theorem parseNode_sp {p : PState} {b i : Bool} (hinv : SInv T se eof p) : StepOk T se eof (parseNode p b i) := by
  unfold parseNode
  cases hp : peekTok p with
  | err e => exact hinv.err ((peekTok_adv p).err hp)
  | panic x => trivial
  | ok t =>
    have ht : t ∈ T := hinv.toks t ((peekTok_adv p).ok hp)
    simp only
    split
    · cases hq : popState p with
      | err e => exact ((popState_sat p).err hq).elim
      | panic x => trivial
      | ok q =>
        simp only
        split
        · exact errTok ht _
        · exact StepOk.emit ht (hinv.pop hq).skipTok
    · rename_i nm _
      have h1 : SInv T se eof (registerAnchor (skipTok p) nm).2 := hinv.skipTok.reg nm
      split
      · rename_i e he; exact h1.err ((peekTok_adv _).err he)
      · trivial
      · split
        · split
          · rename_i e he; exact Or.inl ⟨t, ht, (resolveTag_sat _ _ _ _).err he⟩
          · trivial
          · exact parseNodeContent_sp h1.skipTok _ _ _ _
        · exact parseNodeContent_sp h1 _ _ _ _
    · split
      · rename_i e he; exact Or.inl ⟨t, ht, (resolveTag_sat _ _ _ _).err he⟩
      · trivial
      · split
        · rename_i e he; exact hinv.skipTok.err ((peekTok_adv _).err he)
        · trivial
        · split
          · exact parseNodeContent_sp (hinv.skipTok.skipTok.reg _) _ _ _ _
          · exact parseNodeContent_sp hinv.skipTok _ _ _ _
    · exact parseNodeContent_sp hinv _ _ _ _

theorem streamStart_sp {p : PState} (hinv : SInv T se eof p) : StepOk T se eof (streamStart p) := by
  unfold streamStart
  refine StepOk.bindPeek hinv fun t _ ht => ?_
  split
  · exact StepOk.emit ht (hinv.setState _).skipTok
  · exact errTok ht _

theorem explicitDocumentStart_sp {p : PState} (hinv : SInv T se eof p) : StepOk T se eof (explicitDocumentStart p) := by
  unfold explicitDocumentStart
  refine StepOk.bindAdv hinv (processDirectives_adv _ p false) fun q hq => ?_
  refine StepOk.bindPeek hq fun t _ ht => ?_
  split
  · exact StepOk.emit ht ((hq.push _).setState _).skipTok
  · exact errTok ht _

theorem documentStart_sp {p : PState} (hinv : SInv T se eof p) (i : Bool) : StepOk T se eof (documentStart p i) := by
  unfold documentStart
  refine StepOk.bindAdv hinv (skipDocEnds_adv _ p) fun q hq => ?_
  refine StepOk.bindPeek hq fun t _ ht => ?_
  split
  · exact StepOk.emit ht (hq.setState _).skipTok
  · exact explicitDocumentStart_sp hq
  · exact explicitDocumentStart_sp hq
  · exact explicitDocumentStart_sp hq
  · split
    · refine StepOk.bindAdv hq (processDirectives_adv _ q false) fun q2 hq2 => ?_
      exact StepOk.emit ht ((hq2.push _).setState _)
    · exact explicitDocumentStart_sp hq

theorem documentContent_sp {p : PState} (hinv : SInv T se eof p) : StepOk T se eof (documentContent p) := by
  unfold documentContent
  refine StepOk.bindPeek hinv fun t _ ht => ?_
  split
  iterate 5 exact StepOk.pop (.inl rfl) hinv ht
  exact parseNode_sp hinv

theorem documentEnd_sp {p : PState} (hinv : SInv T se eof p) : StepOk T se eof (documentEnd p) := by
  unfold documentEnd
  refine StepOk.bindPeek hinv fun t _ ht => ?_
  split
  · exact StepOk.emit ht (hinv.skipTok.clearTags.clearAnchors.setState _)
  · have h2 : SInv T se eof (clearAnchors (clearTags p)) := hinv.clearTags.clearAnchors
    refine StepOk.bindPeek h2 fun t2 _ ht2 => ?_
    split
    · exact errTok ht2 _
    · exact errTok ht2 _
    · exact StepOk.emit ht (h2.setState _)

theorem blockMappingKey_sp {p : PState} (hinv : SInv T se eof p) (f : Bool) : StepOk T se eof (blockMappingKey p f) := by
  unfold blockMappingKey
  refine StepOk.bindAdv hinv (skipFirst_adv f p) fun q hq => ?_
  refine StepOk.bindPeek hq fun t _ ht => ?_
  split
  · refine StepOk.bindPeek hq.skipTok fun t2 _ ht2 => ?_
    split
    iterate 3 exact StepOk.emit ht2 (hq.skipTok.setState _)
    exact parseNode_sp (hq.skipTok.push _)
  · exact StepOk.emit ht (hq.setState _)
  · exact StepOk.pop (.inr rfl) hq ht
  · exact errTok ht _

theorem blockMappingValue_sp {p : PState} (hinv : SInv T se eof p) : StepOk T se eof (blockMappingValue p) := by
  unfold blockMappingValue
  refine StepOk.bindPeek hinv fun t _ ht => ?_
  split
  · refine StepOk.bindPeek hinv.skipTok fun t2 _ ht2 => ?_
    split
    iterate 3 exact StepOk.emit ht2 (hinv.skipTok.setState _)
    exact parseNode_sp (hinv.skipTok.push _)
  · exact StepOk.emit ht (hinv.setState _)

theorem flowMappingKey_sp {p : PState} (hinv : SInv T se eof p) (f : Bool) : StepOk T se eof (flowMappingKey p f) := by
  unfold flowMappingKey
  refine StepOk.bindAdv hinv (skipFirst_adv f p) fun q hq => ?_
  refine StepOk.bindPeek hq fun t htq ht => ?_
  split
  · exact StepOk.pop (.inr rfl) hq ht
  · refine StepOk.bindAdv hq (requireFlowEntry_adv f t _ q htq) fun q2 hq2 => ?_
    refine StepOk.bindPeek hq2 fun t2 _ ht2 => ?_
    split
    · refine StepOk.bindPeek hq2.skipTok fun t3 _ ht3 => ?_
      split
      iterate 3 exact StepOk.emit ht3 (hq2.skipTok.setState _)
      exact parseNode_sp (hq2.skipTok.push _)
    · exact StepOk.emit ht2 (hq2.setState _)
    · exact StepOk.pop (.inr rfl) hq2 ht
    · exact parseNode_sp (hq2.push _)

theorem flowMappingValue_sp {p : PState} (hinv : SInv T se eof p) (e : Bool) : StepOk T se eof (flowMappingValue p e) := by
  unfold flowMappingValue
  refine StepOk.bindPeek hinv fun t _ ht => ?_
  split
  · exact StepOk.emit ht (hinv.setState _)
  · split
    · refine StepOk.bindPeek hinv.skipTok fun t2 _ ht2 => ?_
      split
      iterate 2 exact StepOk.emit ht (hinv.skipTok.setState _)
      exact parseNode_sp (hinv.skipTok.push _)
    · exact StepOk.emit ht (hinv.setState _)

theorem flowSequenceEntry_sp {p : PState} (hinv : SInv T se eof p) (f : Bool) : StepOk T se eof (flowSequenceEntry p f) := by
  unfold flowSequenceEntry
  refine StepOk.bindAdv hinv (skipFirst_adv f p) fun q hq => ?_
  refine StepOk.bindPeek hq fun t htq ht => ?_
  split
  · exact StepOk.pop (.inr rfl) hq ht
  · refine StepOk.bindAdv hq (requireFlowEntry_adv f t _ q htq) fun q2 hq2 => ?_
    refine StepOk.bindPeek hq2 fun t2 _ ht2 => ?_
    split
    · exact StepOk.pop (.inr rfl) hq2 ht2
    · exact StepOk.emit ht2 (hq2.setState _).skipTok
    · exact parseNode_sp (hq2.push _)

theorem indentlessSequenceEntry_sp {p : PState} (hinv : SInv T se eof p) : StepOk T se eof (indentlessSequenceEntry p) := by
  unfold indentlessSequenceEntry
  refine StepOk.bindPeek hinv fun t _ ht => ?_
  split
  · refine StepOk.bindPeek hinv.skipTok fun t2 _ ht2 => ?_
    split
    iterate 4 exact StepOk.emit ht2 (hinv.skipTok.setState _)
    exact parseNode_sp (hinv.skipTok.push _)
  · exact StepOk.pop (.inl rfl) hinv ht

theorem blockSequenceEntry_sp {p : PState} (hinv : SInv T se eof p) (f : Bool) : StepOk T se eof (blockSequenceEntry p f) := by
  unfold blockSequenceEntry
  refine StepOk.bindAdv hinv (skipFirst_adv f p) fun q hq => ?_
  refine StepOk.bindPeek hq fun t _ ht => ?_
  split
  · exact StepOk.pop (.inr rfl) hq ht
  · refine StepOk.bindPeek hq.skipTok fun t2 _ ht2 => ?_
    split
    iterate 2 exact StepOk.emit ht2 (hq.skipTok.setState _)
    exact parseNode_sp (hq.skipTok.push _)
  · exact errTok ht _

theorem flowSequenceEntryMappingKey_sp {p : PState} (hinv : SInv T se eof p) :
    StepOk T se eof (flowSequenceEntryMappingKey p) := by
  unfold flowSequenceEntryMappingKey
  refine StepOk.bindPeek hinv fun t _ ht => ?_
  split
  iterate 3 exact StepOk.emit ht (hinv.setState _)
  exact parseNode_sp (hinv.push _)

/-- the state that will emit MappingEnd remembers where: at the end of the token just read -/
theorem flowSequenceEntryMappingValue_sp {p : PState} (hinv : SInv T se eof p) :
    StepOk T se eof (flowSequenceEntryMappingValue p) := by
  unfold flowSequenceEntryMappingValue
  refine StepOk.bindPeek hinv fun t _ ht => ?_
  split
  · refine StepOk.bindPeek hinv.skipTok fun t2 _ ht2 => ?_
    split
    iterate 2 exact StepOk.emit ht2 (hinv.skipTok.setState _ ⟨t2, ht2, rfl⟩)
    exact parseNode_sp (hinv.skipTok.push _ ⟨t2, ht2, rfl⟩)
  · exact StepOk.emit ht (hinv.setState _ ⟨t, ht, rfl⟩)

/-- **One step of the parser invents no position.** -/
theorem parseStep_spans {p : PState} (hinv : SInv T se eof p) (hne : p.state ≠ .end) : StepOk T se eof (parseStep p) := by
  unfold parseStep
  split
  · exact absurd ‹_› hne
  · exact streamStart_sp hinv
  · exact documentStart_sp hinv _
  · exact documentStart_sp hinv _
  · exact documentContent_sp hinv
  · exact documentEnd_sp hinv
  · exact parseNode_sp hinv
  · exact blockMappingKey_sp hinv _
  · exact blockMappingKey_sp hinv _
  · exact blockMappingValue_sp hinv
  · exact blockSequenceEntry_sp hinv _
  · exact blockSequenceEntry_sp hinv _
  · exact flowSequenceEntry_sp hinv _
  · exact flowSequenceEntry_sp hinv _
  · exact flowMappingKey_sp hinv _
  · exact flowMappingKey_sp hinv _
  · exact flowMappingValue_sp hinv _
  · exact indentlessSequenceEntry_sp hinv
  · exact flowSequenceEntryMappingKey_sp hinv
  · exact flowSequenceEntryMappingValue_sp hinv
  · rename_i m hm
    have : StOk T (.flowSequenceEntryMappingEnd m) := hm ▸ hinv.st
    obtain ⟨t, ht, rfl⟩ := this
    exact ⟨Or.inr ⟨t, ht, rfl⟩, hinv.setState _⟩
  · exact flowMappingValue_sp hinv _

end SaphyrModel.Sp
