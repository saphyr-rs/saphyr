import SaphyrModel.Sc.Inv
/-! What the block-state half of C15 (Props/C15) rests on: the loop of `unroll_indent(-1)` in closed form — on a
well-formed indent stack it pops every level, emitting one `BlockEnd` for each level that needed one — and
`remove_simple_key` in front of a continuation. -/
namespace SaphyrModel.Sc

/-- the `BlockEnd` tokens owed for a stack of indents (top first), all at the position `m` -/
def blockEnds (m : Marker) : List Indent → List Token
  | [] => []
  | i :: is => (if i.needsBlockEnd then [⟨Span.empty m, .blockEnd⟩] else []) ++ blockEnds m is

/-- the state after one level was popped -/
def popS (s : Sc) (i : Indent) (is : List Indent) : Sc :=
  { s with
    indent := i.indent
    indents := is
    tokens := s.tokens ++ (if i.needsBlockEnd then [⟨Span.empty s.mark, .blockEnd⟩] else []) }

/-- one round of the unrolling loop, as an equation between outcomes -/
theorem unrollGo_step (col : Int) (f : Nat) (s : Sc) :
    unrollIndentGo col (f + 1) s =
      if s.indent > col then
        match s.indents with
        | [] => .panic .indentsPopUnwrap
        | i :: is =>
          unrollIndentGo col f (popS s i is)
      else .ok ((), s) := by
  conv => lhs; unfold unrollIndentGo
  simp only [Bind.bind, getS]
  by_cases hc : s.indent > col
  · simp only [hc, ↓reduceIte]
    cases hi : s.indents with
    | nil => rfl
    | cons i is =>
      simp only [modS]
      cases hb : i.needsBlockEnd
      · simp [List.append_nil, popS, hb]
      · simp [pushTok, modS, popS, hb]
  · simp only [hc, ↓reduceIte, Pure.pure]

/-- The loop of `unroll_indent(-1)` in closed form: on a well-formed indent stack (strictly decreasing down to −1 — the
    scanner's structural invariant), with fuel for every level, it empties the stack, sets the indentation to −1 and
    appends the `BlockEnd`s owed; nothing else changes. -/
theorem unrollGo_all (fuel : Nat) (s : Sc) (hw : WFInd s.indent s.indents) (hf : s.indents.length < fuel) :
    unrollIndentGo (-1) fuel s =
      .ok ((), { s with indent := -1, indents := [], tokens := s.tokens ++ blockEnds s.mark s.indents }) := by
  induction fuel generalizing s with
  | zero => omega
  | succ f ih =>
    rw [unrollGo_step]
    cases hi : s.indents with
    | nil =>
      -- below an empty well-formed stack the indentation is −1: the loop stops
      simp only [hi, WFInd] at hw
      rw [if_neg (by omega)]
      cases s; simp_all [blockEnds]
    | cons i is =>
      simp only [hi, WFInd, List.length_cons] at hw hf
      have := WFInd_ge is i.indent hw.2
      rw [if_pos (by omega)]
      simp only
      rw [ih (popS s i is) hw.2 (by simp only [popS]; omega)]
      simp [blockEnds, popS]

/-- `remove_simple_key` in front of a continuation: an error, the panic site of an empty key stack, or the
    continuation from a state that differs in its simple keys only -/
theorem removeSimpleKey_bind {α : Type} (f : Unit → S α) (s : Sc) :
    (∃ e, (removeSimpleKey >>= f) s = .err e) ∨ (∃ p, (removeSimpleKey >>= f) s = .panic p) ∨
    ∃ ks, (removeSimpleKey >>= f) s = f () { s with simpleKeys := ks } := by
  unfold removeSimpleKey
  simp only [Bind.bind, getS]
  cases s.simpleKeys with
  | nil => exact .inr (.inl ⟨_, rfl⟩)
  | cons k ks =>
    by_cases hkr : (k.possible && k.required) = true
    · exact .inl ⟨⟨s.mark, "simple key expected"⟩, by simp [hkr, err, throwE]⟩
    · exact .inr (.inr ⟨{ k with possible := false } :: ks, by simp only [hkr, Bool.false_eq_true, ↓reduceIte, modS]⟩)

end SaphyrModel.Sc
