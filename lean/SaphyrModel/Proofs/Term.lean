import SaphyrModel.Proofs.ParserSteps
/-! Termination of the parser's state machine: a potential that every step decreases
(used by Props/C01: the iterator needs at most `16·|tokens| + 3` steps). -/
namespace SaphyrModel

def hdTy (p : PState) : Option TokenType := p.toks.head?.map (·.ty)

/-- rank of a state in front of a given next token: more than what a step from it that consumes nothing leaves in its
    place, which is the rank of the state it moves to, the ranks `rs` of the states it pushes and 1 if it ends in
    `parse_node` (so `ImplicitDocumentStart`, which pushes `DocumentEnd`, 2, and moves to `BlockNode`, 2, gets 5) -/
def rk : State → Option TokenType → Nat
  | .end, _ => 0
  | .streamStart, _ => 1
  | .implicitDocumentStart, _ => 5
  | .documentStart, _ => 1
  | .documentEnd, _ => 2
  | .documentContent, _ => 2
  | .blockNode, _ => 2
  | .blockMappingKey, some .value => 2
  | .blockMappingKey, _ => 1
  | .blockMappingValue, some .value => 1
  | .blockMappingValue, _ => 2
  | .flowMappingValue, _ => 2
  | .flowMappingEmptyValue, _ => 2
  | .flowSequenceEntryMappingKey, _ => 5
  | .flowSequenceEntryMappingValue, _ => 3
  | .flowSequenceEntryMappingEnd _, _ => 2
  | _, _ => 1

/-- rank of a state waiting on the stack: the most it can need when it becomes current -/
def rs : State → Nat
  | .end => 0
  | .implicitDocumentStart | .flowSequenceEntryMappingKey => 5
  | .flowSequenceEntryMappingValue => 3
  | .documentEnd | .documentContent | .blockNode | .blockMappingKey | .blockMappingValue
  | .flowMappingValue | .flowMappingEmptyValue | .flowSequenceEntryMappingEnd _ => 2
  | _ => 1

/-- a step that consumes a token or pops has room (`1 ≤ rk`); a popped state is paid for by what it weighed
    on the stack (`rk ≤ rs`) -/
theorem rk_pos_le (s : State) (h : Option TokenType) : (s ≠ .end → 1 ≤ rk s h) ∧ rk s h ≤ rs s := by
  cases s
  case blockMappingKey | blockMappingValue => rcases h with _ | t <;> (try cases t) <;> simp [rk, rs]
  all_goals simp [rk, rs]

theorem rs_le (s : State) : rs s ≤ 5 := by cases s <;> simp [rs]

theorem rk_eq_rs {s : State} (h1 : s ≠ .blockMappingKey) (h2 : s ≠ .blockMappingValue) (h : Option TokenType) :
    rk s h = rs s := by
  cases s <;> first | rfl | exact absurd rfl h1 | exact absurd rfl h2

theorem rk_blockMapping {ty : TokenType} (h : ty ≠ .value) :
    rk .blockMappingKey (some ty) = 1 ∧ rk .blockMappingValue (some ty) = 2 := by
  cases ty <;> first | exact absurd rfl h | exact ⟨rfl, rfl⟩

/-- A token weighs more than a step can add to the rest: at most 6, the rank of a pushed state (at most 5) and the 1
    by which what `parse_node` then leaves may exceed `wt` (`parseNode_below`). 7 would do. -/
def wt (p : PState) : Nat := 16 * p.toks.length + (p.states.map rs).sum
/-- the potential -/
def phi (p : PState) : Nat := wt p + rk p.state (hdTy p)

def Below (b : Nat) (r : Res Out) : Prop :=
  match r with
  | .ok (_, _, p') => phi p' < b
  | _ => True

theorem Below.bind {α : Type} {b : Nat} {C : α → Prop} {E : ScanError → Prop} {X : Prop} {m : Res α} {f : α → Res Out}
    (hm : m.Sat C E X) (hf : ∀ a, C a → Below b (f a)) : Below b (m >>= f) := by
  cases m with
  | ok a => exact hf a hm
  | err e => trivial
  | panic x => trivial

theorem Below.mono {b b' : Nat} {r : Res Out} (hb : b ≤ b') (h : Below b r) : Below b' r := by
  cases r with
  | ok o => exact Nat.lt_of_lt_of_le h hb
  | err e => trivial
  | panic x => trivial

@[simp] theorem wt_setState (p : PState) (s : State) : wt { p with state := s } = wt p := rfl
@[simp] theorem wt_push (p : PState) (s : State) : wt (pushState p s) = wt p + rs s := by
  simp [wt, pushState]; omega
@[simp] theorem hdTy_setState (p : PState) (s : State) : hdTy { p with state := s } = hdTy p := rfl
@[simp] theorem hdTy_push (p : PState) (s : State) : hdTy (pushState p s) = hdTy p := rfl
@[simp] theorem wt_skipTok_setState (p : PState) (s : State) : wt (skipTok { p with state := s }) = wt (skipTok p) := rfl
theorem wt_registerAnchor (p : PState) (name : Str) : wt (registerAnchor p name).2 = wt p := rfl

theorem wt_skipTok {p : PState} (h : p.toks ≠ []) : wt (skipTok p) + 16 = wt p := by
  cases hp : p.toks with
  | nil => exact absurd hp h
  | cons a r => simp [wt, skipTok, hp]; omega

theorem Adv.wt_le {p q : PState} (h : Adv p q) : wt q ≤ wt p := by
  have := h.length_le; simp only [wt, h.states]; omega

theorem wt_skipTok_le (p : PState) : wt (skipTok p) ≤ wt p := (Adv.skip p).wt_le

/-- looking at the next token of a state `q` that weighs no more than `p`: whoever consumes it is 16 below `p` -/
theorem Below.bindPeek {p q : PState} {b : Nat} {f : Token → Res Out} (hq : wt q ≤ wt p)
    (h : ∀ t, hdTy q = some t.ty → wt (skipTok q) + 16 ≤ wt p → Below b (f t)) : Below b (peekTok q >>= f) :=
  Below.bind (peekTok_sat q) fun t ⟨r, ht⟩ =>
    h t (by simp [hdTy, ht]) (by have := wt_skipTok (p := q) (by simp [ht]); omega)

theorem skipFirst_wt (first : Bool) (p : PState) :
    (skipFirst first p).Sat (fun q => wt q ≤ wt p ∧ (first = true → wt q + 16 = wt p) ∧ (first = false → q = p))
      (fun _ => True) False :=
  (skipFirst_sat first p).mono (fun q h => by
    cases first
    · subst h; simp
    · obtain ⟨h1, rfl⟩ := h; have := wt_skipTok h1; exact ⟨by omega, fun _ => this, by simp⟩)
    (fun _ _ => trivial) id

/-- after `skipFirst first` (from `p` to `q`: `hqf`) and `requireFlowEntry first` one of the two has consumed a token.
    `hc`: the token `t` that was peeked in `q` is there to be consumed -/
theorem requireFlowEntry_wt {p : PState} (first : Bool) (t : Token) (msg : String) (q : PState)
    (hqf : first = true → wt q + 16 = wt p) (hc : wt (skipTok q) + 16 ≤ wt p) :
    (requireFlowEntry first t msg q).Sat (fun q2 => wt q2 + 16 ≤ wt p) (fun _ => True) False :=
  (requireFlowEntry_sat first t msg q).mono (fun q2 h => by
    cases first
    · rw [h.2]; exact hc
    · subst h; exact Nat.le_of_eq (hqf rfl)) (fun _ _ => trivial) id

/-- no token was consumed, but the next state ranks lower -/
theorem Below.rank {q : PState} {ev : Event} {sp : Span} {b : Nat} {K : State} (h : wt q + rs K < b) :
    Below b (.ok (ev, sp, { q with state := K })) :=
  Nat.lt_of_le_of_lt (Nat.add_le_add_left (rk_pos_le _ _).2 _) h

/-- a token was consumed since `p`: whatever state comes next, the potential has dropped -/
theorem Below.consumed {p q : PState} {ev : Event} {sp : Span} {K : State} {r : Nat} (h : wt q + 16 ≤ wt p) :
    Below (wt p + r) (.ok (ev, sp, { q with state := K })) :=
  Below.rank (by have := rs_le K; omega)

/-- after a pop, whatever the popped state is, its rank is covered by what it weighed on the stack -/
theorem pop_le {p q : PState} {f : PState → PState} (hf : f = id ∨ f = skipTok) (h : popState p = .ok q) :
    phi (f q) ≤ wt p := by
  obtain ⟨k, r, hs, rfl⟩ := (popState_sat p).ok h
  have h1 : wt { p with state := k, states := r } + rs k = wt p := by simp [wt, hs]; omega
  have hle : ∀ q' : PState, q'.state = k → wt q' ≤ wt { p with state := k, states := r } → phi q' ≤ wt p := by
    intro q' hq hw; have := (rk_pos_le k (hdTy q')).2; rw [phi, hq]; omega
  rcases hf with rfl | rfl
  · exact hle _ rfl (Nat.le_refl _)
  · exact hle _ rfl (wt_skipTok_le _)

theorem pop_below {p : PState} {b : Nat} {ev : Event} {sp : Span} {f : PState → PState} (hf : f = id ∨ f = skipTok)
    (hb : wt p < b) : Below b (popState p >>= fun q => .ok (ev, sp, f q)) :=
  -- the outcome predicate of the pop is its own equation, which is what `pop_le` takes
  Below.bind (C := fun q => popState p = .ok q) (E := fun _ => True) (X := True)
    (by cases popState p <;> trivial) fun _ h => Nat.lt_of_le_of_lt (pop_le hf h) hb

theorem parseNodeContent_below (q : PState) (b i : Bool) (aid : Nat) (tag : Option Tag) :
    Below (wt q + 2) (parseNodeContent q b i aid tag) := by
  refine parseNodeContent_elim q b i aid tag (fun _ _ => trivial) (fun t K _ hK => ?_) (fun t K _ hK => ?_)
    fun t v st f _ hf => pop_below hf (by omega)
  · rcases hK with rfl | rfl | rfl <;> exact Nat.lt_succ_self _
  · rcases hK with rfl | rfl <;> exact Nat.lt_succ_self _

theorem parseNode_below (q : PState) (b i : Bool) : Below (wt q + 2) (parseNode q b i) := by
  unfold parseNode
  cases hp : peekTok q with
  | err e => trivial
  | panic x => trivial
  | ok t =>
    simp only
    have hc : ∀ (q2 : PState) aid tag, wt q2 ≤ wt q → Below (wt q + 2) (parseNodeContent q2 b i aid tag) :=
      fun q2 aid tag h => (parseNodeContent_below q2 b i aid tag).mono (by omega)
    have h1 : wt (skipTok q) ≤ wt q := wt_skipTok_le q
    have h2 : wt (skipTok (skipTok q)) ≤ wt q := Nat.le_trans (wt_skipTok_le _) h1
    split
    · cases hpop : popState q with
      | err e => trivial
      | panic x => trivial
      | ok p =>
        simp only
        split
        · trivial
        · exact Nat.lt_of_le_of_lt (pop_le (.inr rfl) hpop) (by omega)
    · -- anchor: registering it changes no weight
      split
      · trivial
      · trivial
      · split
        · split
          · trivial
          · trivial
          · exact hc _ _ _ (Nat.le_trans (wt_skipTok_le _) h1)
        · exact hc _ _ _ h1
    · split
      · trivial
      · trivial
      · split
        · trivial
        · trivial
        · split
          · exact hc _ _ _ h2
          · exact hc _ _ _ h1
    · exact hc _ _ _ (Nat.le_refl _)

def NodeBound (q : PState) (r : Res Out) : Prop :=
  match r with
  | .ok (_, _, q') => phi q' ≤ wt q + 1
  | _ => True

theorem parseNode_bound (q : PState) (b i : Bool) : NodeBound q (parseNode q b i) := by
  have := parseNode_below q b i
  cases hr : parseNode q b i with
  | ok o => rw [hr] at this; exact Nat.le_of_lt_succ this
  | err e => trivial
  | panic x => trivial

theorem node_below {q : PState} {b : Nat} {bl i : Bool} (h : wt q + 1 < b) : Below b (parseNode q bl i) :=
  (parseNode_below q bl i).mono h

theorem Below.node_consumed {p q : PState} {K : State} {bl i : Bool} {r : Nat} (h : wt q + 16 ≤ wt p) :
    Below (wt p + r) (parseNode (pushState q K) bl i) := by
  have := rs_le K
  exact node_below (by rw [wt_push]; omega)

/-! One lemma per state function. None of them reads `p.state`: run on any `p`, the result is below `wt p` plus the
rank of the state the function implements, written as the number `rk` computes (`parseStep_below` checks that it is
the one). Where the function serves two states the rank is chosen by `bif`, which `split` leaves alone. -/

theorem blockMappingKey_below (p : PState) (first : Bool) :
    Below (wt p + rk (bif first then .blockMappingFirstKey else .blockMappingKey) (hdTy p))
      (blockMappingKey p first) := by
  unfold blockMappingKey
  refine Below.bind (skipFirst_wt first p) fun q ⟨hqw, hqf, hqe⟩ => ?_
  refine Below.bindPeek hqw fun t hh hc => ?_
  have h0 := (rk_pos_le (bif first then .blockMappingFirstKey else .blockMappingKey) (hdTy p)).1
    (by cases first <;> nofun)
  split
  · refine Below.bind (peekTok_sat _) fun t2 _ => ?_
    split
    iterate 3 exact Below.consumed hc
    exact Below.node_consumed hc
  · rename_i hty
    cases first with
    | true => exact Below.consumed (Nat.le_of_eq (hqf rfl))
    | false =>
      -- `Value` with its key missing: the rank is 2 here and 1 in `BlockMappingValue`, which will see `Value`
      obtain rfl := hqe rfl
      show wt q + rk .blockMappingValue (hdTy q) < wt q + rk .blockMappingKey (hdTy q)
      rw [hh, hty]; exact Nat.lt_succ_self _
  · exact pop_below (.inr rfl) (by omega)
  · trivial

theorem blockMappingValue_below (p : PState) :
    Below (wt p + rk .blockMappingValue (hdTy p)) (blockMappingValue p) := by
  unfold blockMappingValue
  refine Below.bindPeek (Nat.le_refl _) fun t hh hc => ?_
  split
  · refine Below.bind (peekTok_sat _) fun t2 _ => ?_
    split
    iterate 3 exact Below.consumed hc
    exact Below.node_consumed hc
  · -- not `Value`: the rank is 2 here and 1 in `BlockMappingKey`, which will look at the same token
    rename_i hty
    obtain ⟨h1, h2⟩ := rk_blockMapping (ty := t.ty) (fun h => hty h)
    show wt p + rk .blockMappingKey (hdTy p) < wt p + rk .blockMappingValue (hdTy p)
    rw [hh, h1, h2]; exact Nat.lt_succ_self _

theorem blockSequenceEntry_below (p : PState) (first : Bool) : Below (wt p + 1) (blockSequenceEntry p first) := by
  unfold blockSequenceEntry
  refine Below.bind (skipFirst_wt first p) fun q ⟨hqw, _, _⟩ => ?_
  refine Below.bindPeek hqw fun t _ hc => ?_
  split
  · exact pop_below (.inr rfl) (Nat.lt_succ_of_le hqw)
  · refine Below.bind (peekTok_sat _) fun t2 _ => ?_
    split
    iterate 2 exact Below.consumed hc
    exact Below.node_consumed hc
  · trivial

theorem indentlessSequenceEntry_below (p : PState) : Below (wt p + 1) (indentlessSequenceEntry p) := by
  unfold indentlessSequenceEntry
  refine Below.bindPeek (Nat.le_refl _) fun t _ hc => ?_
  split
  · refine Below.bind (peekTok_sat _) fun t2 _ => ?_
    split
    iterate 4 exact Below.consumed hc
    exact Below.node_consumed hc
  · exact pop_below (.inl rfl) (Nat.lt_succ_self _)

theorem flowSequenceEntry_below (p : PState) (first : Bool) : Below (wt p + 1) (flowSequenceEntry p first) := by
  unfold flowSequenceEntry
  refine Below.bind (skipFirst_wt first p) fun q ⟨hqw, hqf, _⟩ => ?_
  refine Below.bindPeek hqw fun t _ hc => ?_
  split
  · exact pop_below (.inr rfl) (Nat.lt_succ_of_le hqw)
  · refine Below.bind (requireFlowEntry_wt first t _ q hqf hc) fun q2 hc2 => ?_
    refine Below.bindPeek (Nat.le_of_add_right_le hc2) fun t2 _ hc3 => ?_
    split
    · exact pop_below (.inr rfl) (by omega)
    · exact Below.consumed (q := skipTok q2) hc3
    · exact Below.node_consumed hc2

theorem flowMappingKey_below (p : PState) (first : Bool) : Below (wt p + 1) (flowMappingKey p first) := by
  unfold flowMappingKey
  refine Below.bind (skipFirst_wt first p) fun q ⟨hqw, hqf, _⟩ => ?_
  refine Below.bindPeek hqw fun t _ hc => ?_
  split
  · exact pop_below (.inr rfl) (Nat.lt_succ_of_le hqw)
  · refine Below.bind (requireFlowEntry_wt first t _ q hqf hc) fun q2 hc2 => ?_
    refine Below.bindPeek (Nat.le_of_add_right_le hc2) fun t2 _ hc3 => ?_
    split
    · refine Below.bind (peekTok_sat _) fun t3 _ => ?_
      split
      iterate 3 exact Below.consumed hc3
      exact Below.node_consumed hc3
    · exact Below.consumed hc2
    · exact pop_below (.inr rfl) (by omega)
    · exact Below.node_consumed hc2

theorem flowMappingValue_below (p : PState) (empty : Bool) : Below (wt p + 2) (flowMappingValue p empty) := by
  unfold flowMappingValue
  refine Below.bindPeek (Nat.le_refl _) fun t _ hc => ?_
  split
  · exact Below.rank (Nat.lt_succ_self _)
  · split
    · refine Below.bind (peekTok_sat _) fun t2 _ => ?_
      split
      iterate 2 exact Below.consumed hc
      exact Below.node_consumed hc
    · exact Below.rank (Nat.lt_succ_self _)

theorem fsemKey_below (p : PState) : Below (wt p + 5) (flowSequenceEntryMappingKey p) := by
  unfold flowSequenceEntryMappingKey
  refine Below.bind (peekTok_sat _) fun t _ => ?_
  split
  iterate 3 exact Below.rank (by simp [rs])
  exact node_below (by rw [wt_push]; simp [rs])

theorem fsemValue_below (p : PState) : Below (wt p + 3) (flowSequenceEntryMappingValue p) := by
  unfold flowSequenceEntryMappingValue
  refine Below.bindPeek (Nat.le_refl _) fun t _ hc => ?_
  split
  · refine Below.bind (peekTok_sat _) fun t2 _ => ?_
    split
    iterate 2 exact Below.consumed hc
    exact Below.node_consumed hc
  · exact Below.rank (Nat.lt_succ_self _)

theorem streamStart_below (p : PState) : Below (wt p + 1) (streamStart p) := by
  unfold streamStart
  refine Below.bindPeek (Nat.le_refl _) fun t _ hc => ?_
  split
  · exact Below.consumed (q := skipTok p) hc
  · trivial

theorem documentContent_below (p : PState) : Below (wt p + 2) (documentContent p) := by
  unfold documentContent
  refine Below.bind (peekTok_sat _) fun t _ => ?_
  split
  iterate 5 exact pop_below (.inl rfl) (Nat.lt_add_of_pos_right (by decide))
  exact node_below (Nat.lt_succ_self _)

theorem documentEnd_below (p : PState) : Below (wt p + 2) (documentEnd p) := by
  unfold documentEnd
  refine Below.bindPeek (Nat.le_refl _) fun t _ hc => ?_
  have hw1 : ∀ q : PState, wt (clearAnchors (clearTags q)) = wt q := fun q => by simp [wt]
  split
  · exact Below.consumed (by rw [hw1]; exact hc)
  · refine Below.bind (peekTok_sat _) fun t2 _ => ?_
    split
    · trivial
    · trivial
    · exact Below.rank (by rw [hw1]; exact Nat.lt_succ_self _)

theorem explicitDocumentStart_below (q : PState) {b : Nat} (hb : wt q < b) : Below b (explicitDocumentStart q) := by
  unfold explicitDocumentStart
  refine Below.bind (processDirectives_adv _ q false) fun q2 hq2 => ?_
  refine Below.bindPeek hq2.wt_le fun t _ hc => ?_
  split
  · -- the token consumed pays for `DocumentEnd` on the stack and for the rank of `DocumentContent`
    exact Below.rank (q := pushState (skipTok q2) .documentEnd) (by rw [wt_push]; simp [rs]; omega)
  · trivial

theorem documentStart_below (p : PState) (implicit : Bool) :
    Below (wt p + bif implicit then 5 else 1) (documentStart p implicit) := by
  unfold documentStart
  refine Below.bind (skipDocEnds_adv _ p) fun q hq => ?_
  have h1 := hq.wt_le
  refine Below.bindPeek h1 fun t _ hc => ?_
  have h0 : 1 ≤ bif implicit then 5 else 1 := by cases implicit <;> decide
  have hex : Below (wt p + bif implicit then 5 else 1) (explicitDocumentStart q) :=
    explicitDocumentStart_below q (by omega)
  split
  · exact Below.consumed (q := skipTok q) hc
  · exact hex
  · exact hex
  · exact hex
  · split
    · rename_i himp
      refine Below.bind (processDirectives_adv _ q false) fun q2 hq2 => ?_
      have h2 := hq2.wt_le
      exact Below.rank (by rw [wt_push, himp]; simp [rs]; omega)
    · exact hex

/-- **Every step of the state machine decreases the potential.** -/
theorem parseStep_below (p : PState) (hne : p.state ≠ .end) : Below (phi p) (parseStep p) := by
  unfold parseStep phi
  -- in each case `rk` of the state computes to the rank in the statement of the lemma for its function
  cases hs : p.state with
  | «end» => exact absurd hs hne
  | streamStart => exact streamStart_below p
  | implicitDocumentStart => exact documentStart_below p true
  | documentStart => exact documentStart_below p false
  | documentContent => exact documentContent_below p
  | documentEnd => exact documentEnd_below p
  | blockNode => exact parseNode_below p true false
  | blockMappingFirstKey => exact blockMappingKey_below p true
  | blockMappingKey => exact blockMappingKey_below p false
  | blockMappingValue => exact blockMappingValue_below p
  | blockSequenceFirstEntry => exact blockSequenceEntry_below p true
  | blockSequenceEntry => exact blockSequenceEntry_below p false
  | flowSequenceFirstEntry => exact flowSequenceEntry_below p true
  | flowSequenceEntry => exact flowSequenceEntry_below p false
  | flowMappingFirstKey => exact flowMappingKey_below p true
  | flowMappingKey => exact flowMappingKey_below p false
  | flowMappingValue => exact flowMappingValue_below p false
  | flowMappingEmptyValue => exact flowMappingValue_below p true
  | indentlessSequenceEntry => exact indentlessSequenceEntry_below p
  | flowSequenceEntryMappingKey => exact fsemKey_below p
  | flowSequenceEntryMappingValue => exact fsemValue_below p
  | flowSequenceEntryMappingEnd m => exact Below.rank (Nat.lt_succ_self _)

end SaphyrModel
