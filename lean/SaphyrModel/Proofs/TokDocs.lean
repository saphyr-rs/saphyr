import SaphyrModel.Proofs.TokTree
/-! Multi-document token streams: the parser handles each document on its own (Props/C15; the one-document stream
`stream_parses` is behind Props/C03, C13 and `Proofs/TokLoad.lean`). -/
namespace SaphyrModel.TokTree

/-- a document as tokens: an optional `---`, a node, an optional `...` -/
structure Doc where
  start : Option Span      -- span of the DocumentStart token, if the document is explicit
  root : TT
  stop : Option Span       -- span of the DocumentEnd token, if there is one

def Doc.toks (d : Doc) : List Token :=
  (match d.start with | some sp => [⟨sp, .documentStart⟩] | none => []) ++ d.root.toks ++
  (match d.stop with | some sp => [⟨sp, .documentEnd⟩] | none => [])

def docsToks : List Doc → List Token
  | [] => []
  | d :: ds => d.toks ++ docsToks ds

/-- a bare document may only follow a document that was closed by `...` -/
def legal : Bool → List Doc → Bool
  | _, [] => true
  | afterMarker, d :: ds => (d.start.isSome || afterMarker) && d.root.wf && legal d.stop.isSome ds

theorem tagsExtend_nil (t : List (Str × Str)) : tagsExtend t [] = t := rfl

/-- the state between documents: what came before left nothing but the token position -/
def Between (p : PState) (afterMarker : Bool) (toks : List Token) : PState :=
  at' p toks (if afterMarker then .implicitDocumentStart else .documentStart) []

theorem explicit_doc_step (p : PState) (am : Bool) (sp : Span) (rest : List Token) :
    parseStep (Between p am (⟨sp, .documentStart⟩ :: rest)) =
      .ok (.documentStart true, sp, at' p rest .documentContent [.documentEnd]) := by
  cases am <;>
    simp [Between, parseStep, documentStart, explicitDocumentStart, skipDocEnds, peekTok, skipTok, processDirectives,
      directivesLoop, tagsExtend, pushState, Bind.bind, at']

theorem implicit_doc_step' (p : PState) (tok : Token) (tl : List Token) (h : nodeStart tok.ty = true) :
    parseStep (at' p (tok :: tl) .implicitDocumentStart []) =
      .ok (.documentStart false, tok.span, at' p (tok :: tl) .blockNode [.documentEnd]) :=
  implicit_doc_step p tok tl h

theorem doc_content_step (p : PState) (tok : Token) (tl : List Token) (sts : List State) (h : nodeStart tok.ty = true) :
    parseStep (at' p (tok :: tl) .documentContent sts) = parseNode (at' p (tok :: tl) .documentContent sts) true false := by
  obtain ⟨sp0, ty0⟩ := tok
  cases ty0 <;> simp [nodeStart] at h <;> simp [parseStep, documentContent, peekTok, Bind.bind, at']

theorem doc_end_marker_step (p : PState) (sp : Span) (rest : List Token) :
    parseStep (at' p (⟨sp, .documentEnd⟩ :: rest) .documentEnd []) =
      .ok (.documentEnd, sp, at' (clearAnchors (clearTags p)) rest .implicitDocumentStart []) := by
  cases hk : p.keepTags <;>
    simp [parseStep, at', documentEnd, peekTok, skipTok, Bind.bind, clearTags, clearAnchors, hk]

theorem doc_end_implicit_step (p : PState) (tok : Token) (rest : List Token)
    (h : tok.ty = .documentStart ∨ tok.ty = .streamEnd) :
    parseStep (at' p (tok :: rest) .documentEnd []) =
      .ok (.documentEnd, tok.span, at' (clearAnchors (clearTags p)) (tok :: rest) .documentStart []) := by
  obtain ⟨sp0, ty0⟩ := tok
  cases hk : p.keepTags <;> rcases h with h | h <;> simp at h <;> subst h <;>
    simp [parseStep, at', documentEnd, peekTok, Bind.bind, clearTags, clearAnchors, hk]

theorem stream_end_step (p : PState) (am : Bool) (se : Span) (rest : List Token) :
    parseStep (Between p am (⟨se, .streamEnd⟩ :: rest)) = .ok (.streamEnd, se, at' p rest .end []) := by
  cases am <;>
    simp [Between, parseStep, documentStart, skipDocEnds, peekTok, skipTok, Bind.bind, at']

/-- the events of a document, given the span the parser uses for an implicit start / end -/
def Doc.events (d : Doc) (implStart implEnd : Span) : List Ev :=
  (.documentStart d.start.isSome, d.start.getD implStart) :: (d.root.events ++ [(.documentEnd, d.stop.getD implEnd)])

/-- what must follow a document that has no `...`: a `---` or the end of the stream -/
def endsDoc (d : Doc) (rest : List Token) : Prop :=
  d.stop.isSome = true ∨ ∃ tk tl, rest = tk :: tl ∧ (tk.ty = .documentStart ∨ tk.ty = .streamEnd)

/-- a document is parsed from the state between documents, whatever came before; an implicit
    DocumentEnd takes the span of the token that follows -/
theorem doc_parses_next (d : Doc) (hw : d.root.wf = true) (p : PState) (am : Bool) (hs : d.start.isSome = true ∨ am = true)
    (rest : List Token) (he : endsDoc d rest) :
    ∃ sp1 sp2 p', steps (d.root.events.length + 2) (Between p am (d.toks ++ rest)) =
        .ok (d.events sp1 sp2, Between p' d.stop.isSome rest) ∧
      ∀ tk tl, d.stop = none → rest = tk :: tl → sp2 = tk.span := by
  obtain ⟨tok, tl, htk, hn⟩ := TT.toks_head d.root
  have ht := TT.parses d.root hw true (Or.inl rfl)
  -- the end of the document: its marker, or an implicit end in front of the `---` / StreamEnd that follows
  obtain ⟨sp2, hend, hsp⟩ : ∃ sp2,
      (∀ q, parseStep (at' q ((match d.stop with | some sp => [⟨sp, .documentEnd⟩] | none => []) ++ rest) .documentEnd []) =
        .ok (.documentEnd, d.stop.getD sp2, Between (clearAnchors (clearTags q)) d.stop.isSome rest)) ∧
      ∀ tk tl, d.stop = none → rest = tk :: tl → sp2 = tk.span := by
    cases hstop : d.stop with
    | some sp => exact ⟨sp, fun q => doc_end_marker_step q sp rest, fun _ _ h => nomatch h⟩
    | none =>
      rcases he with h | ⟨tk, tl', rfl, hty⟩
      · rw [hstop] at h; cases h
      · exact ⟨tk.span, fun q => doc_end_implicit_step q tk tl' hty, fun _ _ _ h => by cases h; rfl⟩
  refine ⟨tok.span, sp2, clearAnchors (clearTags p), ?_, hsp⟩
  simp only [Doc.toks, Doc.events, Between, List.append_assoc]
  cases hstart : d.start with
  | some sp =>
    exact steps_cons (explicit_doc_step p am sp _)
      (run_node_then ht (steps_one (hend p)) (by rw [htk]; exact doc_content_step p tok _ _ hn))
  | none =>
    obtain rfl : am = true := by rcases hs with h | h; rw [hstart] at h; cases h; exact h
    exact steps_cons (by rw [htk]; exact implicit_doc_step p tok _ hn)
      (run_node_then ht (steps_one (hend p)) (by rw [htk]; rfl))

theorem doc_parses (d : Doc) (hw : d.root.wf = true) (p : PState) (am : Bool) (hs : d.start.isSome = true ∨ am = true)
    (rest : List Token) (he : endsDoc d rest) :
    ∃ sp1 sp2 p', steps (d.root.events.length + 2) (Between p am (d.toks ++ rest)) =
      .ok (d.events sp1 sp2, Between p' d.stop.isSome rest) := by
  obtain ⟨sp1, sp2, p', h, _⟩ := doc_parses_next d hw p am hs rest he
  exact ⟨sp1, sp2, p', h⟩

/-- a whole stream from a parser in its initial control state: StreamStart, what lies between, StreamEnd -/
theorem stream_frame {p0 p' : PState} {ss se : Span} {toks : List Token} {n : Nat} {evs : List Ev} {am : Bool}
    (hp0 : p0 = at' p0 (⟨ss, .streamStart⟩ :: (toks ++ [⟨se, .streamEnd⟩])) .streamStart [])
    (h : steps n (Between p0 true (toks ++ [⟨se, .streamEnd⟩])) = .ok (evs, Between p' am [⟨se, .streamEnd⟩])) :
    steps (n + 1 + 1) p0 = .ok ((.streamStart, ss) :: (evs ++ [(.streamEnd, se)]), at' p' [] .end []) :=
  steps_cons (by rw [hp0]; exact stream_start_step p0 ss _ [])
    (steps_append h (steps_one (stream_end_step p' am se [])))

/-- a whole stream with one bare document: `doc_parses_next` between StreamStart and StreamEnd -/
theorem stream_parses (t : TT) (hw : t.wf = true) (ss se : Span) (eof : Marker) (keep : Bool) :
    ∃ sp pf, steps (t.events.length + 4) (PState.init (streamToks ss se t) none eof keep) =
        .ok ((.streamStart, ss) :: (.documentStart false, sp) :: (t.events ++ [(.documentEnd, se), (.streamEnd, se)]), pf) ∧
      pf.state = .end ∧ pf.toks = [] := by
  obtain ⟨sp, sp2, p', h2, hsp⟩ := doc_parses_next ⟨none, t, none⟩ hw (PState.init (streamToks ss se t) none eof keep) true
    (Or.inr rfl) [⟨se, .streamEnd⟩] (Or.inr ⟨_, _, rfl, Or.inr rfl⟩)
  rw [hsp _ _ rfl rfl] at h2
  simp only [Doc.events, Doc.toks, List.nil_append, List.append_nil, Option.isSome_none, Option.getD_none] at h2
  refine ⟨sp, at' p' [] .end [], ?_, rfl, rfl⟩
  simpa [Nat.add_assoc] using stream_frame rfl h2

/-- `evs` are the events of the documents `ds`, one after the other (implicit start/end events take
    their span from a neighbouring token, which is left open here) -/
inductive DocsEvents : List Doc → List Ev → Prop
  | nil : DocsEvents [] []
  | cons {d : Doc} {ds : List Doc} {es : List Ev} (s1 s2 : Span) :
      DocsEvents ds es → DocsEvents (d :: ds) (d.events s1 s2 ++ es)

def docsSteps : List Doc → Nat
  | [] => 0
  | d :: ds => (d.root.events.length + 2) + docsSteps ds

theorem DocsEvents.append {a b : List Doc} {ea eb : List Ev} (ha : DocsEvents a ea) (hb : DocsEvents b eb) :
    DocsEvents (a ++ b) (ea ++ eb) := by
  induction ha with
  | nil => simpa using hb
  | cons s1 s2 _ ih => rw [List.cons_append, List.append_assoc]; exact DocsEvents.cons s1 s2 ih

theorem DocsEvents.split : ∀ (a : List Doc) {b : List Doc} {es : List Ev}, DocsEvents (a ++ b) es →
    ∃ ea eb, es = ea ++ eb ∧ DocsEvents a ea ∧ DocsEvents b eb
  | [], _, es, h => ⟨[], es, rfl, DocsEvents.nil, h⟩
  | d :: a, _, _, .cons s1 s2 hrest =>
    let ⟨ea, eb, he, ha, hb⟩ := DocsEvents.split a hrest
    ⟨d.events s1 s2 ++ ea, eb, by rw [he, List.append_assoc], DocsEvents.cons s1 s2 ha, hb⟩

theorem docsToks_head (d : Doc) (ds : List Doc) (rest : List Token) (hs : d.start.isSome = true) :
    ∃ tk tl, docsToks (d :: ds) ++ rest = tk :: tl ∧ tk.ty = .documentStart := by
  cases hst : d.start with
  | none => rw [hst] at hs; simp at hs
  | some sp =>
    refine ⟨⟨sp, .documentStart⟩, d.root.toks ++ ((match d.stop with | some sp => [⟨sp, .documentEnd⟩] | none => []) ++ (docsToks ds ++ rest)), ?_, rfl⟩
    simp [docsToks, Doc.toks, hst, List.append_assoc]

/-- **Documents are parsed one by one.** From the state between two documents, the tokens of any legal
    list of documents followed by StreamEnd produce the events of those documents in order; each
    document is handled by `doc_parses` from a state that carries nothing of its predecessors but
    the token position. -/
theorem docs_parse (ds : List Doc) : ∀ (p : PState) (am : Bool), legal am ds = true →
    ∀ (se : Span) (tl : List Token), ∃ evs p' am',
      steps (docsSteps ds) (Between p am (docsToks ds ++ ⟨se, .streamEnd⟩ :: tl)) =
        .ok (evs, Between p' am' (⟨se, .streamEnd⟩ :: tl)) ∧ DocsEvents ds evs := by
  induction ds with
  | nil => intro p am _ se tl; exact ⟨[], p, am, rfl, DocsEvents.nil⟩
  | cons d ds ih =>
    intro p am hl se tl
    simp only [legal, Bool.and_eq_true, Bool.or_eq_true] at hl
    obtain ⟨⟨hs, hw⟩, hrest⟩ := hl
    have he : endsDoc d (docsToks ds ++ ⟨se, .streamEnd⟩ :: tl) := by
      by_cases hstop : d.stop.isSome = true
      · exact Or.inl hstop
      · right
        cases ds with
        | nil => exact ⟨⟨se, .streamEnd⟩, tl, rfl, Or.inr rfl⟩
        | cons d2 ds2 =>
          have hl2 := hrest
          simp only [legal, Bool.and_eq_true, Bool.or_eq_true] at hl2
          have hs2 : d2.start.isSome = true := by
            rcases hl2.1.1 with h | h
            · exact h
            · exact absurd h hstop
          obtain ⟨tk, tl2, h1, h2⟩ := docsToks_head d2 ds2 (⟨se, .streamEnd⟩ :: tl) hs2
          exact ⟨tk, tl2, h1, Or.inl h2⟩
    obtain ⟨s1, s2, p1, h1⟩ := doc_parses d hw p am hs _ he
    obtain ⟨evs, p2, am2, h2, hev⟩ := ih p1 d.stop.isSome hrest se tl
    refine ⟨d.events s1 s2 ++ evs, p2, am2, ?_, DocsEvents.cons s1 s2 hev⟩
    have := steps_append h1 h2
    simpa [docsToks, docsSteps, List.append_assoc] using this

/-- a whole stream of documents, from a fresh parser -/
theorem stream_docs_parse (ds : List Doc) (hl : legal true ds = true) (ss se : Span) (eof : Marker) (keep : Bool) :
    ∃ evs pf, steps (docsSteps ds + 2)
        (PState.init (⟨ss, .streamStart⟩ :: (docsToks ds ++ [⟨se, .streamEnd⟩])) none eof keep) =
        .ok ((.streamStart, ss) :: (evs ++ [(.streamEnd, se)]), pf) ∧ DocsEvents ds evs ∧ pf.state = .end := by
  obtain ⟨evs, p', am', h2, hev⟩ := docs_parse ds (PState.init (⟨ss, .streamStart⟩ :: (docsToks ds ++ [⟨se, .streamEnd⟩])) none eof keep)
    true hl se []
  exact ⟨evs, at' p' [] .end [], stream_frame rfl h2, hev, rfl⟩

end SaphyrModel.TokTree
