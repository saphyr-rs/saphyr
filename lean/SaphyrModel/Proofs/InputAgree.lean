import SaphyrModel.Sc.InOp
import SaphyrModel.Proofs.Rel.Attr
/-! Back-end agreement at the `Input` interface (C10): every operation of the interface that reads or consumes
characters returns the same value on a string input and on a buffered input (any capacity) that see the same
characters, and leaves them seeing the same characters (`raw_read_non_breakz_ch`: when the ring is empty). A panic
claims nothing: of the buffered side (a look-ahead request the ring cannot hold, a `peek` beyond what was requested,
exhausted fuel), where the look-ahead discipline is C01's subject; of the string side (`next_can_be_plain_scalar` at
the end of the text, `skip_ws_to_eol` in a `Result` mode). -/
namespace SaphyrModel.C10
open SaphyrModel SaphyrModel.Sc

/-- the characters an input will deliver, in order -/
def text (i : In) : Str := match i.kind with | .str => i.iter | .buf => i.buf ++ i.iter

/-- both inputs deliver the same characters, with NUL standing for "past the end" -/
def Same (i j : In) : Prop := ∀ n, (text i).getD n '\x00' = (text j).getD n '\x00'

structure SimIn (i j : In) : Prop where
  ki : i.kind = .str
  kj : j.kind = .buf
  same : ∀ n, i.iter.getD n '\x00' = (j.buf ++ j.iter).getD n '\x00'

theorem SimIn.toSame {i j : In} (h : SimIn i j) : Same i j := by
  intro n; simpa [text, h.ki, h.kj] using h.same n

/-- a relation between results lifted to outcomes: the same error, and a panic on either side claims nothing -/
def Rel {α β : Type} (Q : α → β → Prop) : Sc.Res α → Sc.Res β → Prop
  | .ok a, .ok b => Q a b
  | .err e1, .err e2 => e1 = e2
  | .panic _, _ => True
  | _, .panic _ => True
  | _, _ => False

theorem Rel.panicR {α β : Type} {Q : α → β → Prop} (r : Sc.Res α) (p : Site) : Rel Q r (.panic p) := by
  cases r <;> trivial

theorem Rel.mono {α β : Type} {Q Q' : α → β → Prop} (hq : ∀ a b, Q a b → Q' a b) {r1 : Sc.Res α} {r2 : Sc.Res β}
    (h : Rel Q r1 r2) : Rel Q' r1 r2 := by
  cases r1 <;> cases r2 <;> first | exact hq _ _ h | exact h

theorem Rel.bind {σ τ α β γ δ : Type} {Q : α × σ → β × τ → Prop} {Q' : γ × σ → δ × τ → Prop}
    {m1 : M σ α} {m2 : M τ β} {f1 : α → M σ γ} {f2 : β → M τ δ} {s : σ} {t : τ}
    (h : Rel Q (m1 s) (m2 t)) (hf : ∀ a s' b t', Q (a, s') (b, t') → Rel Q' (f1 a s') (f2 b t')) :
    Rel Q' ((m1 >>= f1) s) ((m2 >>= f2) t) := by
  simp only [Bind.bind]
  revert h
  rcases m1 s with ⟨a, s'⟩ | e | p <;> rcases m2 t with ⟨b, t'⟩ | e' | q <;> intro h <;>
    first | exact hf _ _ _ _ h | exact h | exact False.elim h | exact Rel.panicR _ _

theorem Rel.elim {α β : Type} {Q : α → β → Prop} {r1 : Sc.Res α} {r2 : Sc.Res β} (h : Rel Q r1 r2)
    (h1 : ∀ p, r1 ≠ .panic p) (h2 : ∀ p, r2 ≠ .panic p) :
    (∃ a b, r1 = .ok a ∧ r2 = .ok b ∧ Q a b) ∨ ∃ e, r1 = .err e ∧ r2 = .err e := by
  rcases r1 with a | e1 | p <;> rcases r2 with b | e2 | q <;>
    first | exact absurd rfl (h1 _) | exact absurd rfl (h2 _) | exact False.elim h | skip
  · exact .inl ⟨a, b, rfl, rfl, h⟩
  · exact .inr ⟨e1, rfl, congrArg _ (Eq.symm h)⟩

/-- agreement of two outcomes: equal values, inputs still seeing the same text, capacity kept -/
def AgreeR {α : Type} (j0 : In) : Sc.Res (α × In) → Sc.Res (α × In) → Prop
  | .ok (a, i'), .ok (b, j') => a = b ∧ SimIn i' j' ∧ j'.cap = j0.cap
  | .err e1, .err e2 => e1 = e2
  | .panic _, _ => True
  | _, .panic _ => True
  | _, _ => False

def Agrees {α : Type} (m : M In α) : Prop := ∀ i j, SimIn i j → AgreeR j (m i) (m j)

theorem AgreeR_iff {α : Type} {j0 : In} {r1 r2 : Sc.Res (α × In)} :
    AgreeR j0 r1 r2 ↔ Rel (fun x y => x.1 = y.1 ∧ SimIn x.2 y.2 ∧ y.2.cap = j0.cap) r1 r2 := by
  rcases r1 with ⟨a, i⟩ | e | p <;> rcases r2 with ⟨b, j⟩ | e' | q <;> exact Iff.rfl

theorem Agrees.pure {α : Type} (a : α) : Agrees (Pure.pure a : M In α) := fun _ _ h => ⟨rfl, h, rfl⟩

theorem AgreeR.panicR {α : Type} (j0 : In) (r : Sc.Res (α × In)) (p : Site) : AgreeR j0 r (.panic p) :=
  AgreeR_iff.2 (Rel.panicR r p)

theorem AgreeR.cap {α : Type} {j0 j1 : In} (hc : j1.cap = j0.cap) {r1 r2 : Sc.Res (α × In)}
    (h : AgreeR j1 r1 r2) : AgreeR j0 r1 r2 :=
  AgreeR_iff.2 ((AgreeR_iff.1 h).mono fun _ _ ⟨h1, h2, h3⟩ => ⟨h1, h2, h3.trans hc⟩)

theorem Agrees.bind {α β : Type} {m : M In α} {f : α → M In β} (h1 : Agrees m) (h2 : ∀ a, Agrees (f a)) :
    Agrees (m >>= f) := fun i j h =>
  AgreeR_iff.2 <| (AgreeR_iff.1 (h1 i j h)).bind fun a i' b j' ⟨hab, hs, hc⟩ => by
    cases hab; exact AgreeR_iff.1 ((h2 a i' j' hs).cap hc)

/-- One round of a comparison whose string side is known: `m` has given the string side `a` and left it `i'`. Then
the buffered side's `m >>= K` stops at a panic site, or goes on as `K a` from an input that sees what `i'` sees. -/
theorem AgreeR.round {α β : Type} {j0 j i' : In} {a : α} {m : M In α} {K : α → M In β} {r : Sc.Res (β × In)}
    (h : AgreeR j0 (.ok (a, i')) (m j)) (H : ∀ j1, SimIn i' j1 → j1.cap = j0.cap → AgreeR j0 r (K a j1)) :
    AgreeR j0 r ((m >>= K) j) := by
  simp only [Bind.bind]
  revert h
  rcases m j with ⟨b, j1⟩ | e | p <;> intro h
  · obtain ⟨rfl, hs, hc⟩ := h; exact H j1 hs hc
  · exact False.elim h
  · exact AgreeR.panicR _ _ _

/-- an operation whose two branches (the `StrInput` override, the trait default) both equal one
generic program that agrees -/
theorem Agrees.congr {α : Type} {m g : M In α} (h : Agrees g)
    (hs : ∀ i : In, i.kind = .str → m i = g i) (hb : ∀ j : In, j.kind = .buf → m j = g j) : Agrees m := by
  intro i j hij
  rw [hs i hij.ki, hb j hij.kj]
  exact h i j hij

/-- The shape of an overridden operation: `StrInput`'s own code `f`, the trait default `g`. It agrees when the default
does and, run on a string, the default computes what the override computes (or the override stops at a panic site). -/
theorem Agrees.kindSplit {α : Type} {f : In → Sc.Res (α × In)} {g : M In α} (hg : Agrees g)
    (hf : ∀ i : In, i.kind = .str → (∃ p, f i = .panic p) ∨ f i = g i) :
    Agrees (fun i => match i.kind with | .str => f i | .buf => g i) := by
  intro i j hij
  simp only [hij.ki, hij.kj]
  rcases hf i hij.ki with ⟨p, hp⟩ | he
  · rw [hp]; trivial
  · rw [he]; exact hg i j hij

/-- texts that agree position by position (NUL beyond the end) -/
def TxtEq (l1 l2 : Str) : Prop := ∀ m, l1.getD m '\x00' = l2.getD m '\x00'

theorem getD_cons_succ (a : Char) (l : Str) (n : Nat) : (a :: l).getD (n + 1) '\x00' = l.getD n '\x00' := rfl

theorem getD_tail (l : Str) (n : Nat) : l.tail.getD n '\x00' = l.getD (n + 1) '\x00' := by
  cases l <;> rfl

theorem getD_drop (l : Str) (k n : Nat) : (l.drop k).getD n '\x00' = l.getD (k + n) '\x00' := by
  simp [List.getD_eq_getElem?_getD]

theorem headD_eq_getD (l : Str) : l.headD '\x00' = l.getD 0 '\x00' := by
  cases l <;> rfl

theorem TxtEq.refl (l : Str) : TxtEq l l := fun _ => rfl
theorem TxtEq.symm {a b : Str} (h : TxtEq a b) : TxtEq b a := fun m => (h m).symm
theorem TxtEq.trans {a b c : Str} (h1 : TxtEq a b) (h2 : TxtEq b c) : TxtEq a c := fun m => (h1 m).trans (h2 m)

theorem TxtEq.cons_iff {a b : Char} {l m : Str} : TxtEq (a :: l) (b :: m) ↔ a = b ∧ TxtEq l m :=
  ⟨fun h => ⟨h 0, fun n => h (n + 1)⟩, fun ⟨hab, h⟩ n => match n with | 0 => hab | n + 1 => h n⟩

theorem TxtEq.nil_cons_iff {b : Char} {m : Str} : TxtEq [] (b :: m) ↔ b = '\x00' ∧ TxtEq [] m :=
  ⟨fun h => ⟨(h 0).symm, fun n => h (n + 1)⟩, fun ⟨hb, h⟩ n => match n with | 0 => hb.symm | n + 1 => h n⟩

theorem TxtEq.induction {P : Str → Str → Prop} (nil : P [] [])
    (nilL : ∀ m, TxtEq [] m → P [] ('\x00' :: m)) (nilR : ∀ l, TxtEq l [] → P ('\x00' :: l) [])
    (cons : ∀ a l m, TxtEq l m → P l m → P (a :: l) (a :: m)) : ∀ l m, TxtEq l m → P l m := by
  intro l
  induction l with
  | nil => intro m h; cases m with
    | nil => exact nil
    | cons b m => obtain ⟨rfl, h'⟩ := TxtEq.nil_cons_iff.1 h; exact nilL m h'
  | cons a l ih => intro m h; cases m with
    | nil => obtain ⟨rfl, h'⟩ := TxtEq.nil_cons_iff.1 h.symm; exact nilR l h'.symm
    | cons b m => obtain ⟨rfl, h'⟩ := TxtEq.cons_iff.1 h; exact cons a l m h' (ih m h')

theorem TxtEq.headD {a b : Str} (h : TxtEq a b) : a.headD '\x00' = b.headD '\x00' := by
  rw [headD_eq_getD, headD_eq_getD]; exact h 0
theorem TxtEq.tail {a b : Str} (h : TxtEq a b) : TxtEq a.tail b.tail := by
  intro m; rw [getD_tail, getD_tail]; exact h (m + 1)
theorem TxtEq.drop {a b : Str} (h : TxtEq a b) (k : Nat) : TxtEq (a.drop k) (b.drop k) := by
  intro m; rw [getD_drop, getD_drop]; exact h (k + m)

/-- the NULs a buffered input pads its ring with at the end of the text are what a string input reads there anyway -/
theorem TxtEq.append_pad (l : Str) (k : Nat) : TxtEq (l ++ List.replicate k '\x00') l := by
  intro m
  simp only [List.getD_eq_getElem?_getD, List.getElem?_append]
  split
  · rfl
  · rename_i h
    have : l[m]? = none := by simp; omega
    simp [this, List.getElem?_replicate]
    split <;> rfl

theorem In.with_iter_eq {i : In} {l : Str} (h : i.iter = l) : ({ i with iter := l } : In) = i := by subst h; rfl

theorem SimIn.la {i j : In} (h : SimIn i j) (l : Nat) : SimIn { i with la := l } j := ⟨h.ki, h.kj, h.same⟩

@[relS] theorem lookahead_agree (n : Nat) : Agrees (In.lookahead n) := by
  intro i j h
  unfold In.lookahead
  simp only [h.ki, h.kj]
  split
  · exact ⟨rfl, ⟨rfl, h.kj, h.same⟩, rfl⟩
  · split
    · trivial
    · refine ⟨rfl, ⟨rfl, rfl, TxtEq.trans h.same ?_⟩, rfl⟩
      show TxtEq _ (j.buf ++ List.take (n - j.buf.length) j.iter ++ _ ++ List.drop (n - j.buf.length) j.iter)
      by_cases hk : n - j.buf.length ≤ j.iter.length
      · have : (List.take (n - j.buf.length) j.iter).length = n - j.buf.length := by simp; omega
        simp [this, List.append_assoc, TxtEq.refl]
      · rw [List.take_of_length_le (by omega), List.drop_of_length_le (by omega), List.append_nil]
        exact (TxtEq.append_pad _ _).symm

@[relS] theorem peek_agree : Agrees In.peek := by
  intro i j h
  unfold In.peek
  simp only [h.ki, h.kj]
  cases hb : j.buf with
  | nil => trivial
  | cons c r => exact ⟨by have := TxtEq.headD h.same; rwa [hb] at this, h, rfl⟩

@[relS] theorem peekNth_agree (n : Nat) : Agrees (In.peekNth n) := by
  intro i j h
  unfold In.peekNth
  simp only [h.ki, h.kj]
  split
  · rename_i hn
    exact ⟨by rw [h.same n]; simp [List.getD_eq_getElem?_getD, List.getElem?_append_left hn, List.getElem?_eq_getElem hn], h, rfl⟩
  · trivial

/-- on an empty ring the model of the buffered input stops (`skipEmpty`): the `Input` contract demands a
look-ahead request before every consumption -/
@[relS] theorem skip_agree : Agrees In.skip := by
  intro i j h
  unfold In.skip
  simp only [h.ki, h.kj]
  cases hb : j.buf with
  | nil => trivial
  | cons b r => exact ⟨rfl, ⟨rfl, rfl, by have := TxtEq.tail h.same; rwa [hb] at this⟩, rfl⟩

theorem skip_agree' (i j : In) (h : SimIn i j) (_hne : j.buf ≠ []) : AgreeR j (In.skip i) (In.skip j) :=
  skip_agree i j h

@[relS] theorem skipN_agree (n : Nat) : Agrees (In.skipN n) := by
  intro i j h
  unfold In.skipN
  simp only [h.ki, h.kj]
  split
  · trivial
  · refine ⟨rfl, ⟨rfl, rfl, ?_⟩, rfl⟩
    show TxtEq (i.iter.drop n) (j.buf.drop n ++ j.iter)
    rw [← List.drop_append_of_le_length (by omega)]
    exact TxtEq.drop h.same n

theorem assertBuflen_agree (n : Nat) (s : Site) : Agrees (In.assertBuflen n s) := by
  intro i j h
  unfold In.assertBuflen
  simp only [h.ki, h.kj]
  split
  · exact ⟨rfl, h, rfl⟩
  · trivial

@[relS] theorem lookCh_agree' : Agrees In.lookCh := Agrees.bind (lookahead_agree 1) (fun _ => peek_agree)
@[relS] theorem nextCharIs_agree (c : Char) : Agrees (In.nextCharIs c) := Agrees.bind peek_agree (fun _ => Agrees.pure _)
@[relS] theorem nthCharIs_agree (n : Nat) (c : Char) : Agrees (In.nthCharIs n c) :=
  Agrees.bind (peekNth_agree n) (fun _ => Agrees.pure _)

theorem head?_beq (l : Str) (c : Char) (hc : c ≠ '\x00') : (l.head? == some c) = (l.getD 0 '\x00' == c) := by
  cases l with
  | nil => simpa using hc.symm
  | cons a r => simp

theorem next2Are_agree (c1 c2 : Char) (h1 : c1 ≠ '\x00') (h2 : c2 ≠ '\x00') : Agrees (In.next2Are c1 c2) := by
  unfold In.next2Are
  refine Agrees.kindSplit (.bind (assertBuflen_agree _ _) fun _ => .bind peek_agree fun _ =>
    .bind (peekNth_agree 1) fun _ => .pure _) fun i hk => .inr ?_
  simp only [hk, Bind.bind, In.assertBuflen, In.peek, In.peekNth, Pure.pure]
  rw [head?_beq _ _ h1, head?_beq _ _ h2, getD_tail, headD_eq_getD]

theorem next3Are_agree (c1 c2 c3 : Char) (h1 : c1 ≠ '\x00') (h2 : c2 ≠ '\x00') (h3 : c3 ≠ '\x00') :
    Agrees (In.next3Are c1 c2 c3) := by
  unfold In.next3Are
  refine Agrees.kindSplit (.bind (assertBuflen_agree _ _) fun _ => .bind peek_agree fun _ =>
    .bind (peekNth_agree 1) fun _ => .bind (peekNth_agree 2) fun _ => .pure _) fun i hk => .inr ?_
  simp only [hk, Bind.bind, In.assertBuflen, In.peek, In.peekNth, Pure.pure]
  rw [head?_beq _ _ h1, head?_beq _ _ h2, head?_beq _ _ h3, getD_tail, getD_tail, getD_tail, headD_eq_getD]

/-- `next_is_*`: `StrInput` tests the first byte and answers `e` on an empty string; the default
peeks (NUL at the end). They agree because every predicate used gives NUL the answer `e`. -/
theorem nextIs_agree (p : Char → Bool) (e : Bool) (hp : p '\x00' = e) : Agrees (In.nextIs p e) := by
  unfold In.nextIs
  refine Agrees.kindSplit (.bind peek_agree fun _ => .pure _) fun i hk => .inr ?_
  simp only [hk, Bind.bind, In.peek, Pure.pure]
  cases i.iter <;> simp [hp]

@[relS] theorem nextIsBlankOrBreak_agree : Agrees In.nextIsBlankOrBreak := nextIs_agree _ _ (by decide)
@[relS] theorem nextIsBlankOrBreakz_agree : Agrees In.nextIsBlankOrBreakz := nextIs_agree _ _ (by decide)
@[relS] theorem nextIsBlank_agree : Agrees In.nextIsBlank := nextIs_agree _ _ (by decide)
@[relS] theorem nextIsBreak_agree : Agrees In.nextIsBreak := nextIs_agree _ _ (by decide)
@[relS] theorem nextIsBreakz_agree : Agrees In.nextIsBreakz := nextIs_agree _ _ (by decide)
@[relS] theorem nextIsZ_agree : Agrees In.nextIsZ := nextIs_agree _ _ (by decide)
@[relS] theorem nextIsFlow_agree : Agrees In.nextIsFlow := nextIs_agree _ _ (by decide)
@[relS] theorem nextIsDigit_agree : Agrees In.nextIsDigit := nextIs_agree _ _ (by decide)
@[relS] theorem nextIsAlpha_agree : Agrees In.nextIsAlpha := nextIs_agree _ _ (by decide)

theorem isBBz_ascii (d : Char) (h : isBlankOrBreakz d = true) : d.toNat < 0x80 := by
  simp [isBlankOrBreakz, isBlank, isBreakz, isBreak, isZ] at h
  rcases h with (h | h) | (h | h) | h <;> subst h <;> decide

/-- `StrInput` looks at a *byte* where the default looks at a character (the fourth of a document marker, the second
of a plain scalar); it is a blank, a break or NUL exactly when the character is -/
theorem byte_isBBz (d : Char) : (decide (d.toNat < 0x80) && isBlankOrBreakz d) = isBlankOrBreakz d := by
  cases hb : isBlankOrBreakz d with
  | false => simp
  | true => simp [isBBz_ascii d hb]

/-- `StrInput`'s byte test for `ccc` followed by a blank, a break or the end: what `next3Are c c c` answers on a string,
and the fourth character (NUL past the end) -/
theorem strDoc_eq (s : Str) (c : Char) :
    In.strDocIndicator s (· == c) =
      ((s.head? == some c && s.tail.head? == some c && s.tail.tail.head? == some c) && isBlankOrBreakz (s.getD 3 '\x00')) := by
  have hz : isBlankOrBreakz '\x00' = true := by decide
  rcases s with _ | ⟨a, _ | ⟨b, _ | ⟨c', _ | ⟨d, r⟩⟩⟩⟩ <;> simp only [In.strDocIndicator, Bool.if_false_right, byte_isBBz] <;>
    simp [List.getD_eq_getElem?_getD, hz] <;> grind

theorem strDoc_or (s : Str) (p q : Char → Bool) :
    In.strDocIndicator s (fun a => p a || q a) = (In.strDocIndicator s p || In.strDocIndicator s q) := by
  rcases s with _ | ⟨a, _ | ⟨b, _ | ⟨c, r⟩⟩⟩ <;> simp only [In.strDocIndicator] <;> grind

@[relS] theorem nextIsDocumentIndicator_agree : Agrees In.nextIsDocumentIndicator := by
  unfold In.nextIsDocumentIndicator
  refine Agrees.kindSplit (.bind (assertBuflen_agree _ _) fun _ => .bind (peekNth_agree 3) fun _ =>
    .bind (next3Are_agree _ _ _ (by decide) (by decide) (by decide)) fun _ =>
    .bind (next3Are_agree _ _ _ (by decide) (by decide) (by decide)) fun _ => .pure _) fun i hk => .inr ?_
  simp only [hk, Bind.bind, In.assertBuflen, In.peekNth, In.next3Are, Pure.pure, strDoc_or, strDoc_eq]
  cases isBlankOrBreakz (i.iter.getD 3 '\x00') <;> simp

theorem docMarker_agree (c : Char) (hc : c ≠ '\x00') :
    Agrees (fun i => match i.kind with
      | .str => .ok (In.strDocIndicator i.iter (· == c), i)
      | .buf => (do In.assertBuflen 4 .assertBuflen4
                    let a ← In.next3Are c c c
                    let c3 ← In.peekNth 3
                    return a && isBlankOrBreakz c3) i) := by
  refine Agrees.kindSplit (.bind (assertBuflen_agree _ _) fun _ => .bind (next3Are_agree _ _ _ hc hc hc) fun _ =>
    .bind (peekNth_agree 3) fun _ => .pure _) fun i hk => .inr ?_
  simp only [hk, Bind.bind, In.assertBuflen, In.peekNth, In.next3Are, Pure.pure, strDoc_eq]

@[relS] theorem nextIsDocumentStart_agree : Agrees In.nextIsDocumentStart := docMarker_agree '-' (by decide)
@[relS] theorem nextIsDocumentEnd_agree : Agrees In.nextIsDocumentEnd := docMarker_agree '.' (by decide)

theorem isFlow_ascii (c : Char) (h : isFlow c = true) : c.toNat < 0x80 := by
  simp [isFlow] at h
  rcases h with (((h | h) | h) | h) | h <;> subst h <;> decide

/-- `StrInput::next_can_be_plain_scalar` inspects the first two *bytes*; on a non-empty string it
answers what the default (two `peek`s) answers. On an empty string it panics — the scanner only
asks after `next_is_blank_or_breakz` said no (C01, `KS.plainGuard`). -/
@[relS] theorem nextCanBePlainScalar_agree (fl : Bool) : Agrees (In.nextCanBePlainScalar fl) := by
  unfold In.nextCanBePlainScalar
  refine Agrees.kindSplit (.bind (peekNth_agree 1) fun _ => .bind peek_agree fun _ => by
    split
    · exact Agrees.pure _
    · split <;> exact Agrees.pure _) fun i hk => ?_
  rcases hi : i.iter with _ | ⟨c, _ | ⟨nc, t⟩⟩
  · exact .inl ⟨_, rfl⟩
  · right
    have hz : isBlankOrBreakz '\x00' = true := by decide
    simp only [hk, hi, Bind.bind, In.peekNth, In.peek, Pure.pure, List.headD_cons]
    rw [show [c].getD 1 '\x00' = '\x00' from rfl, hz]
    by_cases h80 : c.toNat ≥ 0x80
    · have h1 : c ≠ ':' := by rintro rfl; exact absurd h80 (by decide)
      have h2 : isFlow c = false := Bool.eq_false_iff.2 fun hf => absurd (isFlow_ascii c hf) (by omega)
      simp [h80, h1, h2]
    · simp only [h80, if_false]
      cases hcc : (c == ':') <;> cases fl <;> cases hf : isFlow c <;> simp
  · right
    simp only [hk, hi, Bind.bind, In.peekNth, In.peek, Pure.pure, List.getD_cons_succ, List.getD_cons_zero,
      List.headD_cons, byte_isBBz]
    by_cases h1 : (c == ':' && (isBlankOrBreakz nc || fl && isFlow nc)) = true
    · simp [h1]
    · by_cases h2 : (fl && isFlow c) = true <;> simp [h1, h2]

/-- reading behind the look-ahead buffer: agrees when the buffer is empty (the scanner's
`scan_block_scalar_content_line` checks `buf_is_empty` first) -/
theorem rawRead_agree (i j : In) (h : SimIn i j) (hb : j.buf = []) :
    AgreeR j (In.rawReadNonBreakzCh i) (In.rawReadNonBreakzCh j) := by
  have hs : TxtEq i.iter j.iter := fun n => by simpa only [hb, List.nil_append] using h.same n
  have hz : isBreakz '\x00' = true := by decide
  -- where the buffered side pushes a break (or the NUL past the end of the other text) back, the texts stay as they are
  have push : ∀ j' : In, j'.kind = .buf → j'.buf ++ j'.iter = j.iter → SimIn i j' := fun j' hk ht =>
    ⟨h.ki, hk, by rw [ht]; exact hs⟩
  unfold In.rawReadNonBreakzCh
  rcases hi : i.iter with _ | ⟨c, r⟩ <;> rcases hj : j.iter with _ | ⟨d, r'⟩ <;> rw [hi, hj] at hs
  · exact ⟨rfl, h, rfl⟩
  · obtain ⟨rfl, -⟩ := TxtEq.nil_cons_iff.1 hs
    simp only [hz, if_true, h.kj]
    split
    · trivial
    · exact ⟨rfl, push _ rfl (by simp [hb, hj]), rfl⟩
  · obtain ⟨rfl, -⟩ := TxtEq.nil_cons_iff.1 hs.symm
    simp only [hz, if_true, h.ki]
    exact ⟨rfl, h, rfl⟩
  · obtain ⟨rfl, ht⟩ := TxtEq.cons_iff.1 hs
    by_cases hbz : isBreakz c
    · simp only [hbz, if_true, h.ki, h.kj]
      split
      · trivial
      · exact ⟨rfl, push _ rfl (by simp [hb, hj]), rfl⟩
    · simp only [hbz]
      exact ⟨rfl, ⟨h.ki, h.kj, by rw [hb]; exact ht⟩, rfl⟩

theorem lookCh_str (i : In) (hk : i.kind = .str) :
    In.lookCh i = .ok (i.iter.headD '\x00', { i with la := max i.la 1 }) := by
  simp [In.lookCh, In.lookahead, In.peek, hk, Bind.bind]

theorem skip_str (i : In) (hk : i.kind = .str) : In.skip i = .ok ((), { i with iter := i.iter.tail }) := by
  simp [In.skip, hk]

/-- one round of a default loop on the buffered side: `look_ch` shows the next character of the text the string
side holds … -/
theorem lookCh_round {α : Type} {j0 i j : In} (h : SimIn i j) (hc : j.cap = j0.cap) {r : Sc.Res (α × In)}
    {K : Char → M In α} (H : ∀ j1, SimIn i j1 → j1.cap = j0.cap → AgreeR j0 r (K (i.iter.headD '\x00') j1)) :
    AgreeR j0 r ((In.lookCh >>= K) j) :=
  AgreeR.round (i' := { i with la := max i.la 1 }) (lookCh_str i h.ki ▸ (lookCh_agree' i j h).cap hc)
    fun j1 h1 => H j1 ⟨h.ki, h1.kj, h1.same⟩

/-- … and `skip` drops it -/
theorem skip_round {α : Type} {j0 i j : In} (h : SimIn i j) (hc : j.cap = j0.cap) {r : Sc.Res (α × In)}
    {K : Unit → M In α} (H : ∀ j1, SimIn { i with iter := i.iter.tail } j1 → j1.cap = j0.cap → AgreeR j0 r (K () j1)) :
    AgreeR j0 r ((In.skip >>= K) j) :=
  AgreeR.round (i' := { i with iter := i.iter.tail }) (skip_str i h.ki ▸ (skip_agree i j h).cap hc) H

theorem spanWhile_cons_true (p : Char → Bool) (c : Char) (r : Str) (h : p c = true) :
    In.spanWhile p (c :: r) = ((In.spanWhile p r).1 + 1, (In.spanWhile p r).2) := by
  simp [In.spanWhile, h]
theorem spanWhile_false (p : Char → Bool) (l : Str) (h : p (l.headD '\x00') = false) : In.spanWhile p l = (0, l) := by
  cases l with
  | nil => rfl
  | cons c r => simp at h; simp [In.spanWhile, h]

/-- the default `while p(look_ch()) { skip }` on the buffered side counts and consumes exactly the
longest prefix satisfying `p` (what `StrInput` computes directly on its slice) -/
theorem dfltSkipWhile_agree (p : Char → Bool) (hp : p '\x00' = false) {j0 : In} :
    ∀ (fuel n : Nat) (i j : In) (l : Nat), SimIn i j → j.cap = j0.cap →
      AgreeR j0 (.ok (n + (In.spanWhile p i.iter).1, { i with iter := (In.spanWhile p i.iter).2, la := l }))
        (In.dfltSkipWhile p fuel n j) := by
  intro fuel
  induction fuel with
  | zero => intros; exact AgreeR.panicR _ _ _
  | succ f ih =>
    intro n i j l h hc
    unfold In.dfltSkipWhile
    refine lookCh_round h hc fun j1 h1 hc1 => ?_
    by_cases hpc : p (i.iter.headD '\x00') = true
    · simp only [hpc, if_true]
      refine skip_round h1 hc1 fun j2 h2 hc2 => ?_
      rcases hi : i.iter with _ | ⟨c, r⟩
      · rw [hi, List.headD_nil, hp] at hpc; cases hpc
      · rw [hi] at hpc
        have := ih (n + 1) _ j2 l h2 hc2
        simp only [hi, List.tail_cons] at this
        rw [spanWhile_cons_true p c r hpc, Nat.add_comm _ 1, ← Nat.add_assoc]
        exact this
    · simp only [hpc, spanWhile_false p _ (by simpa using hpc)]
      exact ⟨rfl, ⟨h.ki, h1.kj, h1.same⟩, hc1⟩

theorem skipWhile_agree (p : Char → Bool) (hp : p '\x00' = false) :
    Agrees (fun i => match i.kind with
      | .str => let (n, r) := In.spanWhile p i.iter; .ok (n, { i with iter := r })
      | .buf => In.dfltSkipWhile p (i.remaining + 2) 0 i) := by
  intro i j h
  have := dfltSkipWhile_agree p hp (j.remaining + 2) 0 i j i.la h rfl
  simp only [h.ki, h.kj] at this ⊢
  simpa using this

@[relS] theorem skipWhileNonBreakz_agree : Agrees In.skipWhileNonBreakz := skipWhile_agree _ (by decide)
@[relS] theorem skipWhileBlank_agree : Agrees In.skipWhileBlank := skipWhile_agree _ (by decide)

theorem dfltFetchAlpha_agree {j0 : In} :
    ∀ (fuel n : Nat) (out : Str) (i j : In), SimIn i j → j.cap = j0.cap →
      AgreeR j0 (.ok ((n + (In.spanWhile isAlpha i.iter).1, out ++ i.iter.take (In.spanWhile isAlpha i.iter).1),
                    { i with iter := (In.spanWhile isAlpha i.iter).2 }))
        (In.dfltFetchAlpha fuel n out j) := by
  intro fuel
  induction fuel with
  | zero => intros; exact AgreeR.panicR _ _ _
  | succ f ih =>
    intro n out i j h hc
    unfold In.dfltFetchAlpha
    refine lookCh_round h hc fun j1 h1 hc1 => ?_
    by_cases hpc : isAlpha (i.iter.headD '\x00') = true
    · simp only [hpc, if_true]
      refine skip_round h1 hc1 fun j2 h2 hc2 => ?_
      rcases hi : i.iter with _ | ⟨c, r⟩
      · rw [hi] at hpc; cases hpc
      · rw [hi] at hpc
        have := ih (n + 1) (out ++ [c]) _ j2 h2 hc2
        simp only [hi, List.tail_cons] at this
        simp only [spanWhile_cons_true isAlpha c r hpc, List.take_succ_cons, List.headD_cons]
        rw [← Nat.add_assoc, Nat.add_right_comm]
        simpa using this
    · simp only [hpc, spanWhile_false isAlpha _ (by simpa using hpc)]
      exact ⟨by simp, ⟨h.ki, h1.kj, h1.same⟩, hc1⟩

@[relS] theorem fetchWhileIsAlpha_agree (out : Str) : Agrees (In.fetchWhileIsAlpha out) := by
  intro i j h
  have := dfltFetchAlpha_agree (j.remaining + 2) 0 out i j h rfl
  unfold In.fetchWhileIsAlpha
  simp only [h.ki, h.kj] at this ⊢
  simpa using this

def wsMsg : String := "comments must be separated from other tokens by whitespace"

/-- what `StrInput::skip_ws_to_eol` does once the blanks are skipped (`q`: their number, the two flags, the rest of
the text): a comment runs up to the next break -/
def wsFinish (i : In) (q : Nat × Bool × Bool × Str) : Sc.Res ((Nat × Except String SkipTabs) × In) :=
  if q.2.2.2.headD '\x00' == '#' then
    if !q.2.1 && !q.2.2.1 then .ok ((q.1, .error wsMsg), { i with iter := q.2.2.2 })
    else .ok ((q.1 + (In.spanWhile (fun c => !isBreakz c) q.2.2.2).1, .ok (.result q.2.1 q.2.2.1)),
              { i with iter := (In.spanWhile (fun c => !isBreakz c) q.2.2.2).2 })
  else .ok ((q.1, .ok (.result q.2.1 q.2.2.1)), { i with iter := q.2.2.2 })

/-- what `StrInput::skip_ws_to_eol` computes, started in the middle (accumulators `n tab ws`) -/
def wsExpect (tabs : Bool) (i : In) (n : Nat) (tab ws : Bool) : Sc.Res ((Nat × Except String SkipTabs) × In) :=
  wsFinish i (In.strSkipBlanks tabs i.iter n tab ws)

theorem spanWhile_snd_head (p : Char → Bool) (hp : p '\x00' = false) (l : Str) :
    p ((In.spanWhile p l).2.headD '\x00') = false := by
  fun_induction In.spanWhile p l <;> simp_all

theorem headD_ne_nul {l : Str} {c : Char} (h : l.headD '\x00' = c) (hc : c ≠ '\x00') : ∃ r, l = c :: r := by
  cases l with
  | nil => exact absurd h.symm hc
  | cons a r => exact ⟨r, by simp at h; rw [h]⟩

theorem beq_true_eq {a b : Char} (h : (a == b) = true) : a = b := by simpa using h

theorem dfltSkipWs_agree (st : SkipTabs) (tabs : Bool) (hst : (st != SkipTabs.no) = tabs) {j0 : In} :
    ∀ (fuel n : Nat) (tab ws : Bool) (i j : In), SimIn i j → j.cap = j0.cap →
      AgreeR j0 (wsExpect tabs i n tab ws) (In.dfltSkipWs st fuel n tab ws j) := by
  intro fuel
  induction fuel with
  | zero => intros; exact AgreeR.panicR _ _ _
  | succ f ih =>
    intro n tab ws i j h hc
    unfold In.dfltSkipWs
    refine lookCh_round h hc fun j1 h1 hc1 => ?_
    by_cases c1 : (i.iter.headD '\x00' == ' ') = true
    · obtain ⟨r, hr⟩ := headD_ne_nul (beq_true_eq c1) (by decide)
      rw [if_pos c1]
      refine skip_round h1 hc1 fun j2 h2 hc2 => ?_
      have e : wsExpect tabs i n tab ws = wsExpect tabs { i with iter := i.iter.tail } (n + 1) tab true := by
        simp only [wsExpect, hr, In.strSkipBlanks_space, List.tail_cons]; rfl
      rw [e]; exact ih _ _ _ _ j2 h2 hc2
    rw [if_neg c1]
    by_cases c2 : (i.iter.headD '\x00' == '\t' && st != SkipTabs.no) = true
    · obtain ⟨ct, cs⟩ := Bool.and_eq_true_iff.1 c2
      obtain ⟨r, hr⟩ := headD_ne_nul (beq_true_eq ct) (by decide)
      rw [if_pos c2]
      refine skip_round h1 hc1 fun j2 h2 hc2 => ?_
      have e : wsExpect tabs i n tab ws = wsExpect tabs { i with iter := i.iter.tail } (n + 1) true ws := by
        simp only [wsExpect, hr, In.strSkipBlanks_tab, ← hst, cs, if_true, List.tail_cons]; rfl
      rw [e]; exact ih _ _ _ _ j2 h2 hc2
    rw [if_neg c2]
    have hq : In.strSkipBlanks tabs i.iter n tab ws = (n, tab, ws, i.iter) := by
      by_cases htab : i.iter.headD '\x00' = '\t'
      · obtain ⟨r, hr⟩ := headD_ne_nul htab (by decide)
        have : tabs = false := by rw [htab, hst] at c2; simpa using c2
        rw [hr, In.strSkipBlanks_tab, this]; rfl
      · exact In.strSkipBlanks_other tabs i.iter n tab ws (by simpa using c1) htab
    simp only [wsExpect, wsFinish, hq]
    by_cases c4 : (i.iter.headD '\x00' == '#') = true
    · simp only [c4, Bool.true_and, if_true]
      by_cases c3 : (!tab && !ws) = true
      · simp only [c3, if_true]
        exact ⟨rfl, ⟨h.ki, h1.kj, h1.same⟩, hc1⟩
      · -- a comment: it runs up to a break, where the loop looks once more and stops
        obtain ⟨r, hr⟩ := headD_ne_nul (beq_true_eq c4) (by decide)
        simp only [c3, Bool.false_eq_true, if_false]
        refine skip_round h1 hc1 fun j2 h2 hc2 => ?_
        refine AgreeR.round (dfltSkipWhile_agree (fun c => !isBreakz c) (by decide) (f + 1) 0 _ j2 i.la h2 hc2)
          fun j3 h3 hc3 => ?_
        have hb : ∀ d, isBreakz d = false → (In.spanWhile (fun c => !isBreakz c) r).2.headD '\x00' ≠ d := fun d hd hh => by
          have := spanWhile_snd_head (fun c => !isBreakz c) (by decide) r
          rw [hh, hd] at this; cases this
        have := ih (n + (0 + (In.spanWhile (fun c => !isBreakz c) r).1) + 1) tab ws _ j3 h3 hc3
        simp only [wsExpect, wsFinish, hr, List.tail_cons, In.strSkipBlanks_other tabs _ _ tab ws (hb ' ' rfl) (hb '\t' rfl),
          beq_eq_false_iff_ne.2 (hb '#' rfl)] at this
        rw [hr, spanWhile_cons_true _ _ r (by decide)]
        simpa [Nat.add_assoc] using this
    · simp only [c4, Bool.false_and, Bool.false_eq_true, if_false]
      exact ⟨rfl, ⟨h.ki, h1.kj, h1.same⟩, hc1⟩

/-- the flags only go up, and consuming a blank raises one of them -/
theorem ssb_flags (tabs : Bool) (s : Str) (n : Nat) (tab ws : Bool) :
    (tab = true → (In.strSkipBlanks tabs s n tab ws).2.1 = true) ∧
    (ws = true → (In.strSkipBlanks tabs s n tab ws).2.2.1 = true) ∧
    ((In.strSkipBlanks tabs s n tab ws).2.1 = false → (In.strSkipBlanks tabs s n tab ws).2.2.1 = false →
      (In.strSkipBlanks tabs s n tab ws).2.2.2 = s) := by
  fun_induction In.strSkipBlanks tabs s n tab ws <;> simp_all

/-- `StrInput::skip_ws_to_eol` is `wsExpect` from the start. Where it reports a comment that no blank precedes, it
returns without storing the advanced slice; nothing has been consumed then (`ssb_flags`). -/
theorem skipWsToEol_str (st : SkipTabs) (hst : st = .yes ∨ st = .no) (i : In) (hk : i.kind = .str) :
    In.skipWsToEol st i = wsExpect (st == .yes) i 0 false false := by
  have hnone := (ssb_flags (st == .yes) i.iter 0 false false).2.2
  unfold In.skipWsToEol wsExpect wsFinish
  rcases hst with rfl | rfl <;> simp only [hk] <;> revert hnone <;>
    generalize In.strSkipBlanks _ i.iter 0 false false = q <;> obtain ⟨n, tab, ws, r⟩ := q <;> intro hnone <;>
    dsimp only at hnone ⊢ <;> split
  case' h_2 | h_2 =>
    rename_i x
    rw [if_neg fun hh => by obtain ⟨t, ht⟩ := headD_ne_nul (beq_true_eq hh) (by decide); exact x t ht]
  all_goals
    simp only [List.headD_cons, beq_self_eq_true, if_true]
    cases tab <;> cases ws <;> try rfl
    rw [hnone rfl rfl, ← hk]; rfl

/-- `skip_ws_to_eol`: `StrInput`'s slice-based override against the trait default (a loop over
`look_ch`/`skip` with a nested comment loop), for both modes the scanner uses -/
theorem skipWsToEol_agree (st : SkipTabs) (hst : st = .yes ∨ st = .no) : Agrees (In.skipWsToEol st) := by
  intro i j h
  have hst' : (st != SkipTabs.no) = (st == SkipTabs.yes) := by rcases hst with rfl | rfl <;> rfl
  have hbuf : In.skipWsToEol st j = In.dfltSkipWs st (j.remaining + 2) 0 false false j := by
    unfold In.skipWsToEol; simp only [h.kj]
  rw [skipWsToEol_str st hst i h.ki, hbuf]
  exact dfltSkipWs_agree st _ hst' _ 0 false false i j h rfl

/-- `skip_ws_to_eol` agrees for every mode (with a `Result` mode the string side stops at its assertion) -/
@[relS] theorem skipWsToEol_agree_all (t : SkipTabs) : Agrees (In.skipWsToEol t) := by
  cases t with
  | yes => exact skipWsToEol_agree _ (Or.inl rfl)
  | no => exact skipWsToEol_agree _ (Or.inr rfl)
  | result a b =>
    intro i j h
    have : In.skipWsToEol (.result a b) i = .panic .strSkipWsAssert := by simp [In.skipWsToEol, h.ki]
    rw [this]; simp [AgreeR]


end SaphyrModel.C10
