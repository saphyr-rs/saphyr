import SaphyrModel.Proofs.StrEval
import SaphyrModel.Proofs.Words
import SaphyrModel.Emitter
/-! Double-quoted scalars: the scanner decodes what the emitter's `escape_str` writes (used by Props/C09).
`cnw_*` are about `consumeNonWs`, `cb_*` about `consumeBlanks`, `fsl_*` about `flowScalarLoop`. -/
namespace SaphyrModel.Sc
open ProtoE

theorem cnw_plain (c : Char) (h1 : isBlankOrBreakz c = false) (h2 : c ≠ '"') (h3 : c ≠ '\\')
    (s : Sc) (k l fuel : Nat) (str : Str) (lb : Bool) (sm : Marker) (tail : Str)
    (hk : s.inp.kind = .str) (hd : s.inp.iter.drop k = c :: tail) :
    consumeNonWs false sm (fuel + 1) str lb (advL s k l) =
      consumeNonWs false sm fuel (str ++ [c]) lb (advL s (k + 1) (max l 2)) := by
  conv => lhs; unfold consumeNonWs
  rw [bind_ok (peek_advL s k l hk)]
  simp only [hd, List.headD_cons, h1, Bool.false_eq_true, ↓reduceIte, Bool.and_false, Bool.not_false, Bool.and_true]
  have e2 : (c == '"') = false := by simpa using h2
  have e3 : (c == '\\') = false := by simpa using h3
  simp only [e2, e3, Bool.false_eq_true, ↓reduceIte]
  rw [bind_ok (skipNonBlank_str s l k hk), bind_ok (lookahead_advL s (k + 1) l 2 hk)]

theorem getD_one {a b : Char} {t : Str} : (a :: b :: t).getD 1 '\x00' = b := rfl

/-- **A backslash escape** other than a line continuation: `resolveEscape` says what is appended and where the scanner
    stands afterwards -/
theorem cnw_escape (e ch : Char) (hb : isBreak e = false) (s : Sc) (k l n l1 fuel : Nat) (str : Str) (lb : Bool)
    (sm : Marker) (tail : Str) (hk : s.inp.kind = .str) (hd : s.inp.iter.drop k = '\\' :: e :: tail)
    (hres : resolveEscape sm (advL s k l) = .ok (ch, advL s (k + n) l1)) :
    consumeNonWs false sm (fuel + 1) str lb (advL s k l) =
      consumeNonWs false sm fuel (str ++ [ch]) lb (advL s (k + n) (max l1 2)) := by
  conv => lhs; unfold consumeNonWs
  rw [bind_ok (peek_advL s k l hk)]
  simp only [hd, List.headD_cons]
  have e1 : isBlankOrBreakz '\\' = false := by decide
  simp only [e1, Bool.false_eq_true, ↓reduceIte, Bool.and_false, Bool.not_false, Bool.and_true,
    show ('\\' == '"') = false by decide, show ('\\' == '\\') = true by decide]
  rw [bind_ok (peekNth_advL s k l 1 hk)]
  simp only [hd, getD_one, hb, Bool.false_eq_true, ↓reduceIte]
  rw [bind_ok hres, bind_ok (lookahead_advL s (k + n) l1 2 hk)]

theorem resolveEscape_named (e ch : Char) (hn : namedEscape e = some ch) (sm : Marker) (s : Sc) (k l : Nat) (tail : Str)
    (hk : s.inp.kind = .str) (hd : s.inp.iter.drop k = '\\' :: e :: tail) :
    resolveEscape sm (advL s k l) = .ok (ch, advL s (k + 2) l) := by
  unfold resolveEscape
  rw [bind_ok (peekNth_advL s k l 1 hk)]
  simp only [hd, getD_one, hn]
  rw [bind_ok (skipNNonBlank_str s 2 l k hk)]
  rfl

theorem cnw_named (e ch : Char) (hn : namedEscape e = some ch) (hb : isBreak e = false)
    (s : Sc) (k l fuel : Nat) (str : Str) (lb : Bool) (sm : Marker) (tail : Str)
    (hk : s.inp.kind = .str) (hd : s.inp.iter.drop k = '\\' :: e :: tail) :
    consumeNonWs false sm (fuel + 1) str lb (advL s k l) =
      consumeNonWs false sm fuel (str ++ [ch]) lb (advL s (k + 2) (max l 2)) :=
  cnw_escape e ch hb s k l 2 l fuel str lb sm tail hk hd (resolveEscape_named e ch hn sm s k l tail hk hd)

/-- the hexadecimal digit the emitter writes for `k < 16` -/
def hexd (k : Nat) : Char := if k < 10 then Char.ofNat (48 + k) else Char.ofNat (87 + k)
theorem hexd_ok : ∀ k : Fin 16, isHex (hexd k.val) = true ∧ asHex (hexd k.val) = k.val := by decide
theorem hexd_isHex (k : Nat) (h : k < 16) : isHex (hexd k) = true := (hexd_ok ⟨k, h⟩).1
theorem hexd_asHex (k : Nat) (h : k < 16) : asHex (hexd k) = k := (hexd_ok ⟨k, h⟩).2

theorem ofNatAux_toNat (c : Char) (h : c.toNat.isValidChar) : Char.ofNatAux c.toNat h = c := by
  apply Char.ext; simp only [Char.ofNatAux]
  apply UInt32.toNat.inj
  show (BitVec.ofNatLT _ _).toNat = _
  simp only [BitVec.toNat_ofNatLT]; rfl

/-- `hexLoop` reads hexadecimal digits most significant first: with the digits `ds` at offset `n - ds.length` of the
    text, the loop returns their value on top of `v` and leaves the state alone -/
theorem hexLoop_value (sm : Marker) (n : Nat) (s : Sc) (hk : s.inp.kind = .str) (rest : Str) : ∀ (ds : Str) (v : Nat),
    ds.length ≤ n → s.inp.iter.drop (n - ds.length) = ds ++ rest → (∀ c ∈ ds, isHex c = true) →
    hexLoop sm n ds.length v s = .ok (ds.foldl (fun v c => v * 16 + asHex c) v, s) := by
  intro ds
  induction ds with
  | nil => intro v _ _ _; rfl
  | cons d ds ih =>
    intro v hn hd hx
    simp only [List.length_cons] at hn hd ⊢
    unfold hexLoop
    have hp : s.inp.iter.getD (n - (ds.length + 1)) '\x00' = d := by
      have := congrArg (·.headD '\x00') hd
      simpa [List.headD_eq_head?_getD, List.getD_eq_getElem?_getD] using this
    rw [bind_ok (peekNth_eq hk _), hp]
    simp only [hx d (by simp), Bool.not_true, Bool.false_eq_true, ↓reduceIte, List.foldl_cons]
    refine ih _ (by omega) ?_ (fun c hc => hx c (by simp [hc]))
    rw [show n - ds.length = n - (ds.length + 1) + 1 by omega]
    exact drop_add_of_append (a := [d]) hd

theorem resolveEscape_u (ds : Str) (hlen : ds.length = 4) (hx : ∀ c ∈ ds, isHex c = true) (v : Nat)
    (hval : ds.foldl (fun v c => v * 16 + asHex c) 0 = v) (hv : v.isValidChar) (sm : Marker) (s : Sc) (k l : Nat)
    (tail : Str) (hk : s.inp.kind = .str) (hd : s.inp.iter.drop k = '\\' :: 'u' :: (ds ++ tail)) :
    resolveEscape sm (advL s k l) = .ok (Char.ofNatAux v hv, advL s (k + 6) (max l 4)) := by
  unfold resolveEscape
  rw [bind_ok (peekNth_advL s k l 1 hk)]
  simp only [hd, getD_one, show namedEscape 'u' = none by decide,
    show ('u' == 'x') = false by decide, show ('u' == 'u') = true by decide, Bool.false_eq_true, ↓reduceIte,
    show ((4 : Nat) == 0) = false by decide]
  rw [bind_ok (skipNNonBlank_str s 2 l k hk), bind_ok (lookahead_advL s (k + 2) l 4 hk)]
  have hhex := hexLoop_value sm 4 (advL s (k + 2) (max l 4)) hk tail ds 0 (Nat.le_of_eq hlen)
    (by rw [hlen]; exact drop_add_of_append (a := ['\\', 'u']) hd) hx
  rw [hlen, hval] at hhex
  rw [bind_ok hhex]
  simp only [hv, ↓reduceDIte]
  rw [bind_ok (skipNNonBlank_str s 4 _ (k + 2) hk)]
  rfl

theorem cnw_u00 (c : Char) (hc : c.toNat < 256)
    (s : Sc) (k l fuel : Nat) (str : Str) (lb : Bool) (sm : Marker) (tail : Str)
    (hk : s.inp.kind = .str) (hd : s.inp.iter.drop k = ['\\', 'u', '0', '0'] ++ hex2 c.toNat ++ tail) :
    ∃ l', consumeNonWs false sm (fuel + 1) str lb (advL s k l) =
      consumeNonWs false sm fuel (str ++ [c]) lb (advL s (k + 6) l') := by
  have hhi : c.toNat / 16 < 16 := by omega
  have hlo : c.toNat % 16 < 16 := by omega
  have hres := resolveEscape_u ['0', '0', hexd (c.toNat / 16), hexd (c.toNat % 16)] rfl
    (by simp [hexd_isHex _ hhi, hexd_isHex _ hlo]; decide) c.toNat
    (by simp only [List.foldl_cons, List.foldl_nil, hexd_asHex _ hhi, hexd_asHex _ hlo, show asHex '0' = 0 by decide]; omega)
    c.valid sm s k l tail hk hd
  rw [ofNatAux_toNat] at hres
  exact ⟨_, cnw_escape 'u' c (by decide) s k l 6 _ fuel str lb sm _ hk hd hres⟩

theorem escChar_cases (c : Char) :
    (∃ e, escChar c = ['\\', e] ∧ namedEscape e = some c ∧ isBreak e = false) ∨
    (c.toNat < 256 ∧ escChar c = ['\\', 'u', '0', '0'] ++ hex2 c.toNat) ∨
    (escChar c = [c] ∧ c ≠ '"' ∧ c ≠ '\\' ∧ (c = ' ' ∨ isBlankOrBreakz c = false)) := by
  by_cases hn : c ∈ ['"', '\\', '\x08', '\t', '\n', '\x0c', '\r']
  · -- the seven characters written as a backslash and a letter: a table, checked entry by entry
    simp only [List.mem_cons, List.not_mem_nil, or_false] at hn
    rcases hn with rfl | rfl | rfl | rfl | rfl | rfl | rfl <;> exact Or.inl ⟨_, rfl, rfl, rfl⟩
  · simp only [List.mem_cons, List.not_mem_nil, or_false, not_or] at hn
    obtain ⟨h1, h2, h3, h4, h5, h6, h7⟩ := hn
    simp only [escChar, if_neg h1, if_neg h2, if_neg h3, if_neg h4, if_neg h5, if_neg h6, if_neg h7]
    by_cases h8 : c.toNat < 0x20 ∨ c = '\x7f'
    · rw [if_pos h8]
      refine Or.inr (Or.inl ⟨?_, rfl⟩)
      rcases h8 with h | rfl
      · omega
      · decide
    · rw [if_neg h8]
      refine Or.inr (Or.inr ⟨rfl, h1, h2, ?_⟩)
      -- tab, line feed and carriage return are among the seven, NUL is below 0x20: what is left is no blank or break
      simp only [not_or, Nat.not_lt] at h8
      have hz : c ≠ '\x00' := by rintro rfl; exact absurd h8.1 (by decide)
      by_cases hsp : c = ' '
      · exact Or.inl hsp
      · exact Or.inr (by simp [isBlankOrBreakz, isBlank, isBreakz, isBreak, isZ, hsp, h4, h5, h7, hz])

/-- **One character.** Whatever character `c` (other than a space) the emitter escaped, one iteration
    of the scanner's inner loop reads exactly `escChar c` and appends `c`. -/
theorem cnw_char (c : Char) (hsp : c ≠ ' ')
    (s : Sc) (k l fuel : Nat) (str : Str) (lb : Bool) (sm : Marker) (tail : Str)
    (hk : s.inp.kind = .str) (hd : s.inp.iter.drop k = escChar c ++ tail) :
    ∃ l', consumeNonWs false sm (fuel + 1) str lb (advL s k l) =
      consumeNonWs false sm fuel (str ++ [c]) lb (advL s (k + (escChar c).length) l') := by
  rcases escChar_cases c with ⟨e, he, hn, hb⟩ | ⟨hlt, he⟩ | ⟨he, h1, h2, h3⟩
  · rw [he] at hd ⊢
    exact ⟨_, cnw_named e c hn hb s k l fuel str lb sm tail hk hd⟩
  · rw [he] at hd ⊢
    exact cnw_u00 c hlt s k l fuel str lb sm tail hk hd
  · rw [he] at hd ⊢
    exact ⟨_, cnw_plain c (h3.resolve_left hsp) h1 h2 s k l fuel str lb sm tail hk hd⟩

theorem cnw_stop (x : Char) (hx : isBlankOrBreakz x = true ∨ x = '"')
    (s : Sc) (k l fuel : Nat) (str : Str) (lb : Bool) (sm : Marker) (tail : Str)
    (hk : s.inp.kind = .str) (hd : s.inp.iter.drop k = x :: tail) :
    consumeNonWs false sm (fuel + 1) str lb (advL s k l) = .ok ((str, lb), advL s k l) := by
  conv => lhs; unfold consumeNonWs
  rw [bind_ok (peek_advL s k l hk)]
  simp only [hd, List.headD_cons]
  rcases hx with hx | rfl
  · simp [hx, Pure.pure]
  · simp [show isBlankOrBreakz '"' = false by decide, Pure.pure]

/-- **A word.** A run of characters without spaces, as the emitter escaped it, followed by a space
    or the closing quote: the inner loop reads it completely and appends exactly the run. -/
theorem cnw_word (w : Str) (hw : ∀ c ∈ w, c ≠ ' ') (x : Char) (hx : x = ' ' ∨ x = '"') (sm : Marker)
    (s : Sc) (hk : s.inp.kind = .str) : ∀ (k l fuel : Nat) (str : Str) (lb : Bool) (tail : Str),
    w.length + 1 ≤ fuel → s.inp.iter.drop k = w.flatMap escChar ++ x :: tail →
    ∃ l', consumeNonWs false sm fuel str lb (advL s k l) =
      .ok ((str ++ w, lb), advL s (k + (w.flatMap escChar).length) l') := by
  induction w with
  | nil =>
    intro k l fuel str lb tail hf hd
    obtain ⟨f, rfl⟩ : ∃ f, fuel = f + 1 := ⟨fuel - 1, by simp at hf; omega⟩
    exact ⟨l, by simpa using cnw_stop x (hx.imp_left (by rintro rfl; rfl)) s k l f str lb sm tail hk (by simpa using hd)⟩
  | cons c w ih =>
    intro k l fuel str lb tail hf hd
    obtain ⟨f, rfl⟩ : ∃ f, fuel = f + 1 := ⟨fuel - 1, by simp at hf; omega⟩
    rw [List.flatMap_cons, List.append_assoc] at hd
    obtain ⟨l1, h1⟩ := cnw_char c (hw c (by simp)) s k l f str lb sm _ hk hd
    obtain ⟨l2, h2⟩ := ih (fun d hdm => hw d (by simp [hdm])) (k + (escChar c).length) l1 f (str ++ [c]) lb tail
      (by simp at hf ⊢; omega) (drop_add_of_append hd)
    refine ⟨l2, ?_⟩
    rw [h1, h2, List.flatMap_cons]
    simp [List.append_assoc, Nat.add_assoc]

/-- **A run of blanks** inside the quotes (no line break so far) is collected as pending white space -/
theorem cb_blanks (s : Sc) (hk : s.inp.kind = .str) (x : Char) (tail : Str) (hx1 : isBlank x = false)
    (hx2 : isBreak x = false) : ∀ (sp : Str) (k l fuel : Nat) (a : WsAcc), (∀ c ∈ sp, isBlank c = true) →
    sp.length + 1 ≤ fuel → s.inp.iter.drop k = sp ++ x :: tail →
    ∃ l', consumeBlanks fuel a false (advL s k l) =
      .ok (({ a with whitespaces := a.whitespaces ++ sp }, false), advL s (k + sp.length) l') := by
  intro sp k l fuel a hsp hf hd
  obtain ⟨m, e⟩ := consumeBlanks_run x tail hx1 hx2 sp fuel a (advL s k l) hk hsp hd
  rw [if_neg (by omega)] at e
  exact ⟨max l m, by rw [e, show (advL s k l).leadingWhitespace = false from rfl, fwd_advL]; rfl⟩

theorem cb_spaces (n : Nat) (s : Sc) (hk : s.inp.kind = .str) : ∀ (k l fuel : Nat) (a : WsAcc) (x : Char) (tail : Str),
    isBlank x = false → isBreak x = false → n + 1 ≤ fuel →
    s.inp.iter.drop k = List.replicate n ' ' ++ x :: tail →
    ∃ l', consumeBlanks fuel a false (advL s k l) =
      .ok (({ a with whitespaces := a.whitespaces ++ List.replicate n ' ' }, false), advL s (k + n) l') := by
  intro k l fuel a x tail hx1 hx2 hf hd
  simpa using cb_blanks s hk x tail hx1 hx2 (List.replicate n ' ') k l fuel a
    (fun c hc => by rw [List.eq_of_mem_replicate hc]; rfl) (by simpa using hf) hd

theorem escChar_head (c : Char) (hsp : c ≠ ' ') : ∃ x t, escChar c = x :: t ∧ isBlank x = false ∧ isBreak x = false ∧ isZ x = false := by
  rcases escChar_cases c with ⟨e, he, _⟩ | ⟨_, he⟩ | ⟨he, _, _, h3⟩
  · exact ⟨_, _, he, by decide, by decide, by decide⟩
  · exact ⟨_, _, he, by decide, by decide, by decide⟩
  · exact ⟨c, [], he, isBlankOrBreakz_false.mp (h3.resolve_left hsp)⟩

theorem remaining_ge {s : Sc} {k : Nat} {a b : Str} (l : Nat) (hd : s.inp.iter.drop k = a ++ b) :
    a.length ≤ (advL s k l).inp.remaining := by
  have h : (s.inp.iter.drop k).length ≤ (advL s k l).inp.remaining := by simp [In.remaining, advL]
  rw [hd, List.length_append] at h
  omega

theorem escChar_space : escChar ' ' = [' '] := by decide

theorem len_le_flatMap (t : Str) : t.length ≤ (t.flatMap escChar).length := by
  induction t with
  | nil => simp
  | cons c t ih =>
    rw [List.flatMap_cons]; simp only [List.length_cons, List.length_append]
    have : 1 ≤ (escChar c).length := by
      rcases escChar_cases c with ⟨e, he, _⟩ | ⟨_, he⟩ | ⟨he, _⟩ <;> simp [he]
    omega


theorem esc_head (t rest : Str) : ∃ x tl, t.flatMap escChar ++ '"' :: rest = x :: tl ∧ isZ x = false ∧ isBreak x = false ∧
    (isBlank x = true → ∃ t', t = ' ' :: t') := by
  cases t with
  | nil => exact ⟨'"', rest, rfl, by decide, by decide, fun h => absurd h (by decide)⟩
  | cons c t' =>
    by_cases hc : c = ' '
    · subst hc; exact ⟨' ', _, by rw [List.flatMap_cons, escChar_space]; rfl, by decide, by decide, fun _ => ⟨t', rfl⟩⟩
    · obtain ⟨x, tx, hx, hb, hk, hz⟩ := escChar_head c hc
      exact ⟨x, _, by rw [List.flatMap_cons, hx]; rfl, hz, hk, fun h => absurd h (by simp [hb])⟩

/-- **The whole body of a double-quoted scalar**, for every string, by recursion on its words -/
theorem fsl_line (sm : Marker) (s : Sc) (hk : s.inp.kind = .str) (rest : Str) (t : Str) :
    ∀ (fuel k l : Nat) (str : Str), t.length + 2 ≤ fuel → 1 ≤ k →
      s.indent ≤ (s.mark.col + k : Nat) →
      s.inp.iter.drop k = t.flatMap escChar ++ '"' :: rest →
      ∃ l', flowScalarLoop false sm fuel str ⟨[], [], []⟩ (advL s k l) =
        .ok (str ++ t, advL s (k + (t.flatMap escChar).length) l') := by
  induction hn : t.length using Nat.strongRecOn generalizing t with
  | _ n ih =>
    subst hn
    intro fuel k l str hf hk1 hind hd
    obtain ⟨f, rfl⟩ : ∃ f, fuel = f + 1 := ⟨fuel - 1, by omega⟩
    -- the round begins: not in column 0, not at the end of input, not left of the indentation
    obtain ⟨x0, tl0, hd0, hz0, _⟩ := esc_head t rest
    have hcol : ((advL s k (max l 4)).mark.col == 0) = false := by simp; omega
    have hin : ¬ (((advL s k (max l 4)).mark.col : Int) < (advL s k (max l 4)).indent) := by
      simp only [advL_col, advL_indent]; omega
    rw [flowScalarLoop, bind_ok (lookahead_advL s k l 4 hk), getS_bind_eq]
    simp only [hcol, Bool.false_eq_true, ↓reduceIte, pure_bind_eq]
    rw [In.nextIsZ, bind_ok (nextIs_advL _ _ s k _ hk x0 tl0 (hd.trans hd0))]
    simp only [hz0, Bool.false_eq_true, ↓reduceIte, hin]
    rw [bind_ok (lookahead_advL s k (max l 4) 2 hk)]
    -- the first word of `t`; the fuel suffices since escaping never shortens
    obtain ⟨w, r, rfl, hw, hsplit⟩ := words_split (· == ' ') t
    have hw' : ∀ c ∈ w, c ≠ ' ' := fun c hc => by simpa using hw c hc
    rw [List.flatMap_append, List.append_assoc] at hd
    have hfw : w.length + 1 ≤ (advL s k (max l 4)).inp.remaining + 2 := by
      have := remaining_ge (max l 4) hd
      have := len_le_flatMap w
      omega
    have hnext := drop_add_of_append hd
    rcases hsplit with rfl | ⟨b, sp, t', rfl, hsp, ht'b, hlen⟩
    · obtain ⟨l1, h1⟩ := cnw_word w hw' '"' (.inr rfl) sm s hk k (max (max l 4) 2) _ str false rest hfw hd
      rw [bind_ok h1]
      simp only
      rw [bind_ok (lookCh_advL s _ l1 hk), hnext, List.append_nil]
      exact ⟨max l1 1, by simp [Pure.pure]⟩
    · have hsp1 : ∀ c ∈ b :: sp, c = ' ' := fun c hc => by simpa using hsp c hc
      obtain rfl : b = ' ' := hsp1 b (by simp)
      have hflat : (' ' :: sp ++ t').flatMap escChar = ' ' :: sp ++ t'.flatMap escChar := by
        rw [List.flatMap_append, flatMap_self escChar (' ' :: sp) fun c hc => by rw [hsp1 c hc]; rfl]
      rw [hflat, List.append_assoc] at hd hnext
      simp only [List.cons_append] at hd hnext
      obtain ⟨l1, h1⟩ := cnw_word w hw' ' ' (.inl rfl) sm s hk k (max (max l 4) 2) _ str false _ hfw hd
      rw [bind_ok h1]
      simp only
      rw [bind_ok (lookCh_advL s _ l1 hk), hnext]
      simp only [List.headD_cons, show ((' ' : Char) == '\'') = false by decide,
        show ((' ' : Char) == '"') = false by decide, Bool.false_and, Bool.false_or, Bool.false_eq_true, ↓reduceIte,
        getS_bind_eq]
      -- the spaces after it; then comes something that is no blank: `t'` does not begin with a space
      obtain ⟨x, tx, hxe, _, hxk, hxb⟩ := esc_head t' rest
      have hxb' : isBlank x = false := Bool.eq_false_iff.mpr fun hb => by
        obtain ⟨u, e⟩ := hxb hb
        exact absurd (ht'b ' ' u e) (by decide)
      rw [hxe] at hnext
      obtain ⟨l2, h2⟩ := cb_blanks s hk x tx hxb' hxk (' ' :: sp) _ (max l1 1)
        ((advL s (k + (w.flatMap escChar).length) (max l1 1)).inp.remaining + 2) ⟨[], [], []⟩
        (fun c hc => by rw [hsp1 c hc]; rfl) (by have := remaining_ge (a := ' ' :: sp) (max l1 1) hnext; omega) hnext
      rw [bind_ok h2]
      simp only [List.nil_append, Bool.false_eq_true, ↓reduceIte]
      obtain ⟨l3, h3⟩ := ih t'.length hlen t' rfl f _ l2 (str ++ w ++ (' ' :: sp)) (by simp at hf; omega) (by omega)
        (by omega) (hxe ▸ drop_add_of_append (a := ' ' :: sp) hnext)
      refine ⟨l3, ?_⟩
      rw [h3, List.flatMap_append, hflat]
      simp only [List.length_append, List.append_assoc, Nat.add_assoc]

/-- **The whole body of a double-quoted scalar.** For every string `t`, the outer loop of the flow
    scalar scanner, started inside the quotes in front of `t` as the emitter escaped it, returns
    `t` appended to what it had, and stops at the closing quote. -/
theorem fsl_decode (sm : Marker) (s : Sc) (hk : s.inp.kind = .str) (rest : Str) (N : Nat) :
    ∀ (t : Str), t.length ≤ N → ∀ (fuel k l : Nat) (str : Str), t.length + 2 ≤ fuel → 1 ≤ k →
      s.indent ≤ (s.mark.col + k : Nat) →
      s.inp.iter.drop k = t.flatMap escChar ++ '"' :: rest →
      ∃ l', flowScalarLoop false sm fuel str ⟨[], [], []⟩ (advL s k l) =
        .ok (str ++ t, advL s (k + (t.flatMap escChar).length) l') :=
  fun t _ => fsl_line sm s hk rest t

/-- what `scan_flow_scalar` does after the loop -/
def dqTail (startMark : Marker) (str : Str) : S Token := do
  skipNonBlank
  let _ ← skipWsToEol .yes
  let c ← peek
  let s ← getS
  let ok :=
    ((c == ',' || c == '}' || c == ']') && s.flowLevel > 0) || isBreakz c ||
    (c == ':' && s.flowLevel == 0 && startMark.line == s.mark.line) || (c == ':' && s.flowLevel > 0)
  if !ok then err s.mark "invalid trailing content after double-quoted scalar"
  else pure ⟨⟨startMark, s.mark⟩, .scalar .doubleQuoted str⟩

/-- **`scan_flow_scalar` on what `escape_str` wrote.** In front of `"` + escaped `t` + `"` + anything,
    the double-quoted scanner reaches its trailing-content check with exactly `t` as the value. -/
theorem scanFlowScalar_escaped (s : Sc) (hk : s.inp.kind = .str) (t rest : Str)
    (hiter : s.inp.iter = '"' :: (t.flatMap escChar ++ '"' :: rest))
    (hind : s.indent ≤ (s.mark.col + 1 : Nat)) :
    ∃ l', scanFlowScalar false s = dqTail s.mark t (advL s (1 + (t.flatMap escChar).length) l') := by
  have hd : s.inp.iter.drop 1 = t.flatMap escChar ++ '"' :: rest := by rw [hiter]; rfl
  have hrem : t.length + 2 ≤ (advL s 1 s.inp.la).inp.remaining + 2 := by
    have := remaining_ge s.inp.la hd
    have := len_le_flatMap t
    omega
  obtain ⟨l', h⟩ := fsl_line s.mark s hk rest t ((advL s 1 s.inp.la).inp.remaining + 2) 1 s.inp.la [] hrem
    (Nat.le_refl _) hind hd
  refine ⟨l', ?_⟩
  unfold scanFlowScalar dqTail
  simp only [Bind.bind, getMark, getS, skipNonBlank_str0 s hk, h, List.nil_append]
  rfl

/-- on a string input `skipWsToEol` does not panic: it reports an error or leaves a string input -/
theorem skipWsToEol_yes_str (s : Sc) (hk : s.inp.kind = .str) :
    (∃ e, skipWsToEol .yes s = .err e) ∨ ∃ v s', skipWsToEol .yes s = .ok (v, s') ∧ s'.inp.kind = .str := by
  unfold skipWsToEol
  simp only [Bind.bind, liftI]
  cases h : In.skipWsToEol .yes s.inp with
  | panic p => exact absurd h (InOp.strPanic hk)
  | err e => exact .inl ⟨e, rfl⟩
  | ok r =>
    obtain ⟨⟨n, v⟩, i'⟩ := r
    cases v with
    | ok v => exact .inr ⟨v, _, rfl, (InOp.str hk h).1⟩
    | error m => exact .inl ⟨_, rfl⟩

/-- the value of the token, whenever a token is produced; and the scan cannot panic -/
theorem scanFlowScalar_escaped_value (s : Sc) (hk : s.inp.kind = .str) (t rest : Str)
    (hiter : s.inp.iter = '"' :: (t.flatMap escChar ++ '"' :: rest))
    (hind : s.indent ≤ (s.mark.col + 1 : Nat)) :
    match scanFlowScalar false s with
    | .ok (tok, _) => tok.ty = .scalar .doubleQuoted t ∧ tok.span.start = s.mark
    | .err _ => True
    | .panic _ => False := by
  obtain ⟨l', h⟩ := scanFlowScalar_escaped s hk t rest hiter hind
  rw [h, dqTail, bind_ok (skipNonBlank_str s l' _ hk)]
  rcases skipWsToEol_yes_str (advL s (1 + (t.flatMap escChar).length + 1) l') hk with ⟨e, h3⟩ | ⟨v, s3, h3, hk3⟩
  · simp only [Bind.bind, h3]
  · rw [bind_ok h3, bind_ok (peek_eq hk3), getS_bind_eq]
    -- whichever way the check of what follows the closing quote goes
    generalize (!(_ : Bool)) = b
    cases b
    · exact ⟨rfl, rfl⟩
    · trivial

end SaphyrModel.Sc
