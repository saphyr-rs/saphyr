import SaphyrModel.Spec.Positions
import SaphyrModel.Proofs.BlockLines
/-! C12, counting lemmas: how the specification's line/column counter (`Spec.advanceLC`) moves over a concatenation,
over text free of breaks, over each spelling of a line break, and over the indented lines of a block scalar
(`C14L.restLinesB`); at the end, `Spec.markTrue` of a mark from the count over the text in front of it. -/
namespace SaphyrModel.C12C
open SaphyrModel.Sc SaphyrModel.Spec SaphyrModel.C14L SaphyrModel.C05

theorem advanceLC_cons {a : Char} (h1 : a ≠ '\n') (h2 : a ≠ '\r') (r : Str) (l k : Nat) :
    advanceLC (a :: r) (l, k) = advanceLC r (l, k + 1) := by
  rw [advanceLC]
  all_goals (intros; simp_all)

/-- **The counter over a concatenation**, unless a CR LF pair straddles the seam. -/
theorem advanceLC_append_gen (y : Str) : ∀ (x : Str) (lc : Nat × Nat), (∀ p t, x = p ++ ['\r'] → y = '\n' :: t → False) →
    advanceLC (x ++ y) lc = advanceLC y (advanceLC x lc) := by
  intro x lc
  fun_induction advanceLC x lc with
  | case1 lc => intro _; simp
  | case2 r l k ih =>
    intro hs
    simpa [advanceLC] using ih fun p t hp => hs ('\n' :: p) t (by rw [hp]; rfl)
  | case3 r l k ih =>
    intro hs
    simpa [advanceLC] using ih fun p t hp => hs ('\r' :: p) t (by rw [hp]; rfl)
  | case4 r l k hr ih =>
    intro hs
    have hn : ∀ t, r ++ y ≠ '\n' :: t := by
      intro t e
      cases r with
      | nil => exact hs [] t rfl e
      | cons a r' => cases e; exact hr r' rfl
    have := ih fun p t hp => hs ('\r' :: p) t (by rw [hp]; rfl)
    rw [List.cons_append, advanceLC]
    · simpa [advanceLC] using this
    · exact hn
  | case5 a r l k ha1 ha2 ha3 ih =>
    intro hs
    rw [List.cons_append, advanceLC_cons ha1 ha3]
    exact ih fun p t hp => hs (a :: p) t (by rw [hp]; rfl)

theorem advanceLC_append (y : Str) (hy : y.headD '\x00' ≠ '\n') (x : Str) (lc : Nat × Nat) :
    advanceLC (x ++ y) lc = advanceLC y (advanceLC x lc) :=
  advanceLC_append_gen y x lc fun _ t _ e => hy (by rw [e]; rfl)

theorem advanceLC_append_left (y : Str) (x : Str) (lc : Nat × Nat) (hx : ∀ p, x ≠ p ++ ['\r']) :
    advanceLC (x ++ y) lc = advanceLC y (advanceLC x lc) :=
  advanceLC_append_gen y x lc fun p _ e _ => hx p e

theorem advanceLC_nobreak : ∀ (l : Str) (L C : Nat), (∀ c ∈ l, isBreak c = false) → advanceLC l (L, C) = (L, C + l.length) := by
  intro l
  induction l with
  | nil => intro L C _; rfl
  | cons a t ih =>
    intro L C h
    have ha : isBreak a = false := h a (by simp)
    rw [advanceLC_cons (by rintro rfl; cases ha) (by rintro rfl; cases ha), ih L (C + 1) fun c hc => h c (by simp [hc]),
      List.length_cons, Nat.add_right_comm, Nat.add_assoc]

theorem advanceLC_nobreak_append (x y : Str) (L C : Nat) (h : ∀ c ∈ x, isBreak c = false) :
    advanceLC (x ++ y) (L, C) = advanceLC y (L, C + x.length) := by
  rw [advanceLC_append_left y x _ fun p e => absurd (h '\r' (by simp [e])) (by decide), advanceLC_nobreak x L C h]

theorem advanceLC_brk (b : Brk) (L C : Nat) : advanceLC b.txt (L, C) = (L + 1, 0) := by
  cases b <;> simp [Brk.txt, advanceLC]

/-- a stretch free of breaks and the break that ends it: to column 0 of the next line -/
theorem advanceLC_eol (x : Str) (b : Brk) (R : Str) (L C : Nat) (hx : ∀ c ∈ x, isBreak c = false) (hR : R.headD '\x00' ≠ '\n') :
    advanceLC (x ++ (b.txt ++ R)) (L, C) = advanceLC R (L + 1, 0) := by
  rw [advanceLC_nobreak_append x _ L C hx, advanceLC_append R hR, advanceLC_brk]

theorem replicate_nobreak (n : Nat) : ∀ c ∈ List.replicate n ' ', isBreak c = false := by
  intro c hc
  rw [List.eq_of_mem_replicate hc]; decide

theorem restLinesB_append (ind : Nat) (tail : Str) : ∀ ls, restLinesB ind ls tail = restLinesB ind ls [] ++ tail
  | [] => rfl
  | (l, b) :: ls => by simp only [restLinesB, restLinesB_append ind tail ls, List.append_assoc]

theorem restLinesB_head (ind : Nat) (hind : ind ≠ 0) (y : Str) (hy : y.headD '\x00' ≠ '\n') :
    ∀ ls, (restLinesB ind ls y).headD '\x00' ≠ '\n'
  | [] => hy
  | (l, b) :: ls => by rw [restLinesB, replicate_headD hind]; decide

/-- over indented content lines the counter goes down one line per line, in column 0 -/
theorem advanceLC_lines (ind : Nat) (hind : ind ≠ 0) (y : Str) (hy : y.headD '\x00' ≠ '\n') :
    ∀ (ls : List (Str × Brk)) (L : Nat), (∀ p ∈ ls, GoodLine p.1) →
      advanceLC (restLinesB ind ls y) (L, 0) = advanceLC y (L + ls.length, 0)
  | [], _, _ => rfl
  | (l, b) :: ls, L, h => by
    have hl : ∀ c ∈ l, isBreak c = false := fun c hc => (nb_not_break ((h (l, b) (by simp)).2 c hc)).1
    -- the indentation, the line with its break, the lines after it
    rw [restLinesB, advanceLC_nobreak_append _ _ _ _ (replicate_nobreak ind), advanceLC_eol l b _ _ _ hl (restLinesB_head ind hind y hy ls),
      advanceLC_lines ind hind y hy ls (L + 1) fun q hq => h q (by simp [hq]), List.length_cons, Nat.add_right_comm L 1]
    rfl

end SaphyrModel.C12C

namespace SaphyrModel.C12
open SaphyrModel.Spec

theorem markTrue_split {text A B : Str} {m : Marker} (h : text = A ++ B) (hidx : m.index + B.length = text.length)
    (hlc : advanceLC A (1, 0) = (m.line, m.col)) : markTrue text m = true := by
  subst h
  have hk : m.index = A.length := by simp only [List.length_append] at hidx; omega
  simp [markTrue, lineCol, hk, hlc]

end SaphyrModel.C12
