import SaphyrModel.Proofs.BlockLines
/-! C05 / C14, token level: a whole block scalar, literal or folded — header, the break that ends the header line,
auto-detected indentation, content lines, chomping — is scanned to the token the specification prescribes, for
every list of content lines and every spelling of every line break (string input). -/
namespace SaphyrModel.C05T
open SaphyrModel.Sc SaphyrModel.C05 SaphyrModel.C14L SaphyrModel.C05F

theorem ev_skipSpaces : ∀ (fuel k : Nat) (u : Sc) (rest : Str) (L C : Nat) (I : Int) (N : Nat),
    At u (List.replicate k ' ' ++ rest) L C I N → rest.headD '\x00' ≠ ' ' →
    Ev (skipSpaces fuel) u () (fun u' => At u' rest L (C + k) I N) := by
  intro fuel
  induction fuel with
  | zero => intro k u rest L C I N _ _; exact Or.inl ⟨_, rfl⟩
  | succ f ih =>
    intro k u rest L C I N h hr
    unfold skipSpaces
    apply Ev.bind (ev_lookCh h)
    intro u1 h1
    cases k with
    | zero =>
      simp only [List.replicate_zero, List.nil_append, show (rest.headD '\x00' == ' ') = false by simpa using hr,
        Bool.false_eq_true, ↓reduceIte] at h1 ⊢
      exact Ev.pure () u1 h1
    | succ k =>
      simp only [List.replicate_succ, List.cons_append, List.headD_cons, beq_self_eq_true, ↓reduceIte] at h1 ⊢
      apply Ev.bind (ev_skipBlank h1)
      intro u2 h2
      rw [show C + (k + 1) = C + 1 + k by omega]
      exact ih k u2 rest L (C + 1) I N h2 hr

theorem ev_firstLineIndent (ind : Nat) (hind : ind ≠ 0) (u : Sc) (rest : Str) (L : Nat) (I : Int) (N : Nat)
    (h : At u (List.replicate ind ' ' ++ rest) L 0 I N) (hr1 : rest.headD '\x00' ≠ ' ')
    (hr2 : isBreak (rest.headD '\x00') = false) (hI : (I + 1).toNat ≤ ind) :
    Ev (skipBlockScalarFirstLineIndent []) u (ind, []) (fun u' => At u' rest L ind I N) := by
  unfold skipBlockScalarFirstLineIndent
  apply Ev.getS_step.mpr
  have hgo : Ev (skipBlockScalarFirstLineIndentGo (u.inp.remaining + 2) 0 []) u (ind, []) (fun u' => At u' rest L ind I N) := by
    rw [show u.inp.remaining + 2 = (u.inp.remaining + 1) + 1 by omega]
    unfold skipBlockScalarFirstLineIndentGo
    apply Ev.getS_step.mpr
    apply Ev.bind (ev_skipSpaces _ ind u rest L 0 I N h hr1)
    intro u2 h2
    have hb : ans isBreak false rest = false := by cases rest <;> simp_all [ans]
    -- no break after the spaces: a content line, and its column is the indentation
    simp only [↓Ev.getS_step, In.nextIsBreak, ↓Ev.step (h2.nextIs _ _), hb, Bool.false_eq_true, ↓reduceIte, h2.col]
    exact Ev.pure' u2 (by simp; omega) (by rw [show ind = 0 + ind by omega]; exact h2)
  apply Ev.bind hgo
  intro u5 h5
  apply Ev.getS_step.mpr
  refine Ev.pure' u5 ?_ h5
  rw [h5.indent, show max ind (I + 1).toNat = ind by omega]
  split
  · rw [Nat.max_eq_left (Nat.pos_of_ne_zero hind)]
  · rfl

/-- what chomping leaves of content that ends with exactly one line break -/
def chomped (ch : Chomping) (content : Str) : Str :=
  match ch with | .strip => content | _ => content ++ ['\n']

/-- where the scanner stands, parent indentation aside -/
def Pos (u : Sc) (it : Str) (line col : Nat) (N : Nat) : Prop :=
  u.inp.kind = .str ∧ u.inp.iter = it ∧ u.mark.line = line ∧ u.mark.col = col ∧ u.mark.index + it.length = N

def blockText (lit : Bool) (ch : Chomping) (l : Str) (ls : List (Str × Brk)) : Str :=
  chomped ch (linesAcc lit ⟨[], [], [], false⟩ l ls).str

theorem ev_blockContent (lit : Bool) (ch : Chomping) (ind : Nat) (hind : ind ≠ 0) (tail : Str) (ht1 : tail.headD '\x00' ≠ ' ')
    (ht2 : isBreak (tail.headD '\x00') = false) (ls : List (Str × Brk)) (l : Str) (b : Brk)
    (hl : GoodLine l) (hls : ∀ p ∈ ls, GoodLine p.1) (u : Sc) (L : Nat) (I : Int) (N : Nat)
    (h : At u (l ++ (b.txt ++ restLinesB ind ls tail)) L ind I N) :
    EvR (blockContent lit ch ind [] u) u (fun tok u' =>
      tok = ⟨⟨u.mark, u'.mark⟩, .scalar (if lit then ScalarStyle.literal else ScalarStyle.folded) (blockText lit ch l ls)⟩ ∧
      Pos u' tail (L + ls.length + 1) 0 N) := by
  unfold blockContent
  rw [show blockMarkerCheck ind u = (Pure.pure true : S Bool) by simp [blockMarkerCheck, h.col]]
  simp only [↓EvR.pure_step, Bool.not_true, Bool.false_eq_true, ↓reduceIte]
  apply EvR.bindEv (ev_blockLines lit ind hind tail ht1 ht2 ls l b _ u _ L I N hl hls h)
  intro u2 h2
  apply EvR.getS_bind
  obtain ⟨hlb, htb⟩ := linesAcc_breaks lit ls ⟨[], [], [], false⟩ l
  generalize hacc : linesAcc lit ⟨[], [], [], false⟩ l ls = acc at hlb htb
  obtain ⟨str, lb, tb, bl⟩ := acc
  subst hlb htb
  rw [EvR.step (literal_chomping ch ind str bl u2 h2.kind h2.col)]
  exact Or.inr ⟨_, u2, rfl, by rw [blockText, hacc]; rfl, h2.kind, h2.iter, h2.line, h2.col, h2.off⟩

/-- what the token of the scalar must be: its style, the text, from line `L`, column `ind` to column 0 of line `L'` -/
def IsTok (lit : Bool) (tok : Token) (text : Str) (L ind L' : Nat) (startRest stopRest N : Nat) : Prop :=
  tok.ty = .scalar (if lit then ScalarStyle.literal else ScalarStyle.folded) text ∧ tok.span.start.line = L ∧ tok.span.start.col = ind ∧
  tok.span.stop.line = L' ∧ tok.span.stop.col = 0 ∧
  tok.span.start.index + startRest = N ∧ tok.span.stop.index + stopRest = N

theorem ev_blockAfterHeader (lit : Bool) (sm : Marker) (ch : Chomping) (cb : Str) (ind : Nat) (hind : ind ≠ 0) (tail : Str)
    (ht1 : tail.headD '\x00' ≠ ' ') (ht2 : isBreak (tail.headD '\x00') = false)
    (ls : List (Str × Brk)) (l : Str) (b : Brk)
    (hl : GoodLine l) (hl1 : l.headD '\x00' ≠ ' ') (hls : ∀ p ∈ ls, GoodLine p.1) (u : Sc) (L : Nat) (I : Int) (N : Nat)
    (hI : (I + 1).toNat ≤ ind)
    (h : At u (List.replicate ind ' ' ++ (l ++ (b.txt ++ restLinesB ind ls tail))) L 0 I N) :
    EvR (blockAfterHeader lit sm ch 0 cb) u (fun tok u' =>
      IsTok lit tok (blockText lit ch l ls) L ind (L + ls.length + 1)
        (l ++ (b.txt ++ restLinesB ind ls tail)).length tail.length N ∧ Pos u' tail (L + ls.length + 1) 0 N) := by
  obtain ⟨c0, l0, rfl, hc0, hz0, _⟩ := good_head hl []
  obtain ⟨n, rfl⟩ : ∃ n, ind = n + 1 := ⟨ind - 1, by omega⟩
  unfold blockAfterHeader
  apply EvR.bindEv (ev_lookCh h)
  intro u1 h1
  simp only [List.replicate_succ, List.cons_append, List.headD_cons, show ((' ' : Char) == '\t') = false by decide,
    Bool.false_eq_true, ↓reduceIte]
  apply EvR.getS_bind
  rw [show blockIndent 0 u1 = skipBlockScalarFirstLineIndent [] by simp [blockIndent]]
  apply EvR.bindEv (ev_firstLineIndent (n + 1) hind u1 ((c0 :: l0) ++ (b.txt ++ restLinesB (n + 1) ls tail)) L I N
    (by simpa [List.replicate_succ] using h1) (by simpa using hl1) (by simpa using hc0) hI)
  intro u3 h3
  -- not at the end of the input: there is content
  simp only [In.nextIsZ, ↓EvR.step (h3.nextIs _ _), List.cons_append, ans, hz0, Bool.false_eq_true, ↓reduceIte, ↓EvR.getS_step]
  refine EvR.mono (ev_blockContent lit ch (n + 1) hind tail ht1 ht2 ls (c0 :: l0) b hl hls u3 L I N h3) ?_
  rintro tok u' ⟨rfl, hpos⟩
  exact ⟨⟨rfl, h3.line, h3.col, hpos.2.2.1, hpos.2.2.2.1, h3.off, hpos.2.2.2.2⟩, hpos⟩

/-- the chomping indicator of the header (no indentation indicator: the indentation is detected) -/
inductive Hdr | clip | strip | keep
deriving Repr, DecidableEq

def Hdr.txt : Hdr → Str | .clip => [] | .strip => ['-'] | .keep => ['+']
def Hdr.chomp : Hdr → Chomping | .clip => .clip | .strip => .strip | .keep => .keep

theorem ev_blockHeader (sm : Marker) (hd : Hdr) (b0 : Brk) (R : Str) (u : Sc) (L C : Nat) (I : Int) (N : Nat)
    (h : At u (hd.txt ++ (b0.txt ++ R)) L C I N) :
    Ev (blockHeader sm ((hd.txt ++ (b0.txt ++ R)).headD '\x00') false) u (hd.chomp, 0)
      (fun u' => At u' (b0.txt ++ R) L (C + hd.txt.length) I N) := by
  obtain ⟨cb, rb, hbr, hcb⟩ := brk_head b0 R
  obtain ⟨hcbd, hcbpm⟩ : isDigit cb = false ∧ (cb == '+' || cb == '-') = false := by
    rcases hcb with rfl | rfl <;> decide
  unfold blockHeader
  -- an indicator, if any, is `-` or `+`: skipped, and no digit follows
  have hind : ∀ c : Char, At u (c :: (b0.txt ++ R)) L C I N →
      Ev (do skipNonBlank; Sc.lookahead 1; blockHeaderDigit sm (if c == '+' then Chomping.keep else Chomping.strip)) u
        (if c == '+' then Chomping.keep else Chomping.strip, 0) (fun u' => At u' (b0.txt ++ R) L (C + 1) I N) := by
    intro c h
    apply Ev.bind (ev_skipNonBlank h)
    intro u1 h1
    apply Ev.bind (ev_lookahead 1 h1)
    intro u2 h2
    unfold blockHeaderDigit
    simp only [In.nextIsDigit, ↓Ev.step (h2.nextIs _ _), hbr, ans, hcbd, Bool.false_eq_true, ↓reduceIte]
    exact Ev.pure _ u2 (hbr ▸ h2)
  cases hd with
  | clip =>
    simp only [Hdr.txt, List.nil_append, hbr, List.headD_cons, hcbpm, Bool.false_eq_true, ↓reduceIte] at h ⊢
    exact Ev.pure _ u (by simpa [hbr] using h)
  | strip => exact hind '-' h
  | keep => exact hind '+' h

/-- **A whole block scalar, from just after its `|` or `>`.** The header is nothing, `-` or `+`; the header line
    ends with any spelling of a line break; the first content line fixes the indentation `ind ≥ 1` (deeper than
    the parent); every content line ends with its own spelling of a break; the text goes on with something that
    does not start with a space or a break (a less indented line, or the end of the input). Then the scanner
    either stops at a panic site (any site: the statement does not say it is `fuel`) or returns the token of a
    scalar of that style whose text is what the lines amount to (`blockText`), chomped as the header says,
    spanning from the first content line to column 0 of the line after the last one. -/
theorem block_token (lit : Bool) (sm : Marker) (hd : Hdr) (b0 : Brk) (ind : Nat) (hind : ind ≠ 0) (tail : Str)
    (ht1 : tail.headD '\x00' ≠ ' ') (ht2 : isBreak (tail.headD '\x00') = false) (ls : List (Str × Brk)) (l : Str) (b : Brk)
    (hl : GoodLine l) (hl1 : l.headD '\x00' ≠ ' ') (hls : ∀ p ∈ ls, GoodLine p.1) (u : Sc) (L C : Nat) (I : Int) (N : Nat)
    (hI : (I + 1).toNat ≤ ind)
    (h : At u (hd.txt ++ (b0.txt ++ (List.replicate ind ' ' ++ (l ++ (b.txt ++ restLinesB ind ls tail))))) L C I N) :
    EvR (scanBlockScalarBody lit sm) u (fun tok u' =>
      IsTok lit tok (blockText lit hd.chomp l ls) (L + 1) ind (L + 1 + ls.length + 1)
        (l ++ (b.txt ++ restLinesB ind ls tail)).length tail.length N ∧
      Pos u' tail (L + 1 + ls.length + 1) 0 N) := by
  generalize hR : List.replicate ind ' ' ++ (l ++ (b.txt ++ restLinesB ind ls tail)) = R at h
  have hRh : R.headD '\x00' ≠ '\n' := by rw [← hR, replicate_headD hind]; decide
  obtain ⟨cb, rb, hbr, hcb⟩ := brk_head b0 R
  obtain ⟨hcb1, hcb3⟩ : isBreak cb = true ∧ isBlank cb = false ∧ cb ≠ '#' ∧ isDigit cb = false := by
    rcases hcb with rfl | rfl <;> decide
  unfold scanBlockScalarBody
  apply EvR.bindEv (ev_lookCh h)
  intro u1 h1
  -- no indentation digit
  simp only [In.nextIsDigit, ↓EvR.step (h1.nextIs _ _),
    show ans isDigit false (hd.txt ++ (b0.txt ++ R)) = false by cases hd <;> simp [Hdr.txt, ans, hbr, hcb3] <;> decide]
  apply EvR.bindEv (ev_blockHeader sm hd b0 R u1 L C I N h1)
  intro u3 h3
  show EvR (Sc.skipWsToEol .yes >>= _) u3 _
  apply EvR.bindEv (ev_skipWsToEol (by rw [hbr]; exact hcb3.1) (by rw [hbr]; exact hcb3.2.1) h3)
  intro u4 h4
  apply EvR.bindEv (ev_lookahead 1 h4)
  intro u5 h5
  -- the header line ends with a break
  simp only [In.nextIsBreakz, ↓EvR.step (h5.nextIs _ _), hbr, ans, isBreakz, hcb1, Bool.true_or, Bool.not_true, Bool.false_eq_true,
    ↓reduceIte]
  have hcbk : Ev blockChompingBreak u5 ['\n'] (fun u' => At u' R (L + 1) 0 I N) := by
    unfold blockChompingBreak
    simp only [In.nextIsBreak, ↓Ev.step (h5.nextIs _ _), hbr, ans, hcb1, ↓reduceIte]
    apply Ev.bind (ev_lookahead 2 h5)
    intro u8 h8
    exact ev_readBreak [] b0 h8 hRh
  apply EvR.bindEv hcbk
  intro u9 h9
  exact ev_blockAfterHeader lit sm hd.chomp ['\n'] ind hind tail ht1 ht2 ls l b hl hl1 hls u9 (L + 1) I N hI (hR ▸ h9)

theorem fold_head {l : Str} (h : FoldLine l) : l.headD '\x00' ≠ ' ' := by
  intro e
  have := h.2
  rw [e] at this
  exact absurd this (by decide)

end SaphyrModel.C05T
