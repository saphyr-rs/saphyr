import SaphyrModel.Proofs.Rel.Scan3
/-! C10 for whole runs of the scanner: the token streams of the two back-ends agree. -/
namespace SaphyrModel.C10
open SaphyrModel SaphyrModel.Sc

variable [inst : Bespoke]
include inst

theorem scanAll_rel : ∀ (f1 f2 : Nat) (s t : Sc) (acc : List Token), Sim s t →
    (∀ p, (scanAll f1 s acc).2.1 ≠ .panic p) → (∀ p, (scanAll f2 t acc).2.1 ≠ .panic p) →
    (scanAll f1 s acc).1 = (scanAll f2 t acc).1 ∧ (scanAll f1 s acc).2.1 = (scanAll f2 t acc).2.1 := by
  refine Nat.rec₂ (fun _ _ _ _ _ h1 _ => absurd rfl (h1 .fuel)) (fun _ _ _ _ _ _ h2 => absurd rfl (h2 .fuel))
    fun n1 n2 ih s t acc hst h1 h2 => ?_
  unfold scanAll at h1 h2 ⊢
  rcases (OutS_iff.1 (RelS.nextToken.out s t hst)).elim (fun p hp => h1 p (by rw [hp])) (fun p hp => h2 p (by rw [hp]))
    with ⟨⟨a, s'⟩, ⟨b, t'⟩, e1, e2, hab, hsim⟩ | ⟨e, e1, e2⟩
  · cases hab
    rw [e1] at h1 ⊢; rw [e2] at h2 ⊢
    cases a with
    | none => exact ⟨rfl, rfl⟩
    | some tk => exact ih s' t' (tk :: acc) hsim h1 h2
  · rw [e1, e2]; exact ⟨rfl, rfl⟩

/-- **C10 for the scanner, given that `skip_block_scalar_indent` agrees** (`Bespoke`): for every text
    and every buffer capacity the string back-end and the buffered back-end deliver the same tokens —
    values and spans — and the same outcome, whenever neither run stops at a panic site. -/
theorem scan_backends_agree (text : Str) (cap cap' fuel fuel' : Nat) :
    let a := scanAll fuel (mkSc .str cap text) []
    let b := scanAll fuel' (mkSc .buf cap' text) []
    (∀ p, a.2.1 ≠ .panic p) → (∀ p, b.2.1 ≠ .panic p) → a.1 = b.1 ∧ a.2.1 = b.2.1 := by
  intro a b
  exact scanAll_rel fuel fuel' _ _ [] ⟨⟨rfl, rfl, fun _ => rfl⟩, rfl⟩

end SaphyrModel.C10
