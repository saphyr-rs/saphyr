import SaphyrModel.Proofs.Rel.BespokeClass
import SaphyrModel.Proofs.Rel.Scan1
/-! `RelS` for the functions of `Sc/Scan2.lean` (block scalars). `scan_block_scalar_content_line` is `line_rel` (Rel/Line.lean);
`skip_block_scalar_indent` is assumed to agree (`Bespoke.indent`). -/
namespace SaphyrModel.C10
open SaphyrModel SaphyrModel.Sc

-- every lemma of the file carries the hypothesis, also where the function does not reach `skip_block_scalar_indent`
set_option linter.unusedSectionVars false
variable [inst : Bespoke]
include inst
attribute [relS] Bespoke.indent

@[relS] theorem RelS.readBreak (acc : Str) : RelS (readBreak acc) (readBreak acc) := by unfold Sc.readBreak; relS
@[relS] theorem RelS.skipSpaces : ∀ (f1 f2 : Nat), RelS (skipSpaces f1) (skipSpaces f2) := by
  refine Nat.rec₂ (fun _ => .panicL _ _) (fun _ => .panicR _ _) fun _ _ ih => ?_
  unfold Sc.skipSpaces; relS
@[relS] theorem RelS.skipBlockScalarFirstLineIndentGo :
    ∀ (f1 f2 : Nat) (x0 : Nat) (x1 : Str),
      RelS (skipBlockScalarFirstLineIndentGo f1 x0 x1) (skipBlockScalarFirstLineIndentGo f2 x0 x1) := by
  refine Nat.rec₂ (fun _ _ _ => .panicL _ _) (fun _ _ _ => .panicR _ _) fun _ _ ih x0 x1 => ?_
  unfold Sc.skipBlockScalarFirstLineIndentGo; relS
@[relS] theorem RelS.skipBlockScalarFirstLineIndent (breaks : Str) :
    RelS (skipBlockScalarFirstLineIndent breaks) (skipBlockScalarFirstLineIndent breaks) := by
  unfold Sc.skipBlockScalarFirstLineIndent; relS
@[relS] theorem RelS.blockScalarLines (literal : Bool) (indent : Nat) :
    ∀ (f1 f2 : Nat) (x0 : BlkAcc),
      RelS (blockScalarLines literal indent f1 x0) (blockScalarLines literal indent f2 x0) := by
  refine Nat.rec₂ (fun _ _ => .panicL _ _) (fun _ _ => .panicR _ _) fun _ _ ih x0 => ?_
  unfold Sc.blockScalarLines; relS
@[relS] theorem RelS.blockHeaderDigit (startMark : Marker) (ch : Chomping) :
    RelS (blockHeaderDigit startMark ch) (blockHeaderDigit startMark ch) := by
  unfold Sc.blockHeaderDigit; relS
@[relS] theorem RelS.blockHeaderChomp (d : Char) : RelS (blockHeaderChomp d) (blockHeaderChomp d) := by
  unfold Sc.blockHeaderChomp; relS
@[relS] theorem RelS.blockHeader (startMark : Marker) (c : Char) (isDigit : Bool) :
    RelS (blockHeader startMark c isDigit) (blockHeader startMark c isDigit) := by
  unfold Sc.blockHeader; relS
@[relS] theorem RelS.blockChompingBreak : RelS blockChompingBreak blockChompingBreak := by
  unfold Sc.blockChompingBreak; relS
@[relS] theorem RelS.blockIndent (increment : Nat) (s : Sc) (j : In) :
    RelS (blockIndent increment s) (blockIndent increment { s with inp := j }) := by
  unfold Sc.blockIndent; dsimp only; relS
@[relS] theorem RelS.blockMarkerCheck (indent : Nat) (s : Sc) (j : In) :
    RelS (blockMarkerCheck indent s) (blockMarkerCheck indent { s with inp := j }) := by
  unfold Sc.blockMarkerCheck; dsimp only; relS
@[relS] theorem RelS.blockFinish (chomping : Chomping) (indent : Nat) (a : BlkAcc) (s : Sc) (j : In) :
    RelS (blockFinish chomping indent a s) (blockFinish chomping indent a { s with inp := j }) := by
  unfold Sc.blockFinish; dsimp only; relS
@[relS] theorem RelS.blockContent (literal : Bool) (chomping : Chomping) (indent : Nat) (trailingBreaks : Str)
    (s : Sc) (j : In) :
    RelS (blockContent literal chomping indent trailingBreaks s)
      (blockContent literal chomping indent trailingBreaks { s with inp := j }) := by
  unfold Sc.blockContent; dsimp only; relS
@[relS] theorem RelS.blockAfterHeader (literal : Bool) (startMark : Marker) (chomping : Chomping) (increment : Nat)
    (chompingBreak : Str) :
    RelS (blockAfterHeader literal startMark chomping increment chompingBreak)
      (blockAfterHeader literal startMark chomping increment chompingBreak) := by
  unfold Sc.blockAfterHeader; relS
@[relS] theorem RelS.scanBlockScalarBody (literal : Bool) (startMark : Marker) :
    RelS (scanBlockScalarBody literal startMark) (scanBlockScalarBody literal startMark) := by
  unfold Sc.scanBlockScalarBody; relS
@[relS] theorem RelS.scanBlockScalar (literal : Bool) : RelS (scanBlockScalar literal) (scanBlockScalar literal) := by
  unfold Sc.scanBlockScalar; relS
@[relS] theorem RelS.fetchBlockScalar (literal : Bool) :
    RelS (fetchBlockScalar literal) (fetchBlockScalar literal) := by
  unfold Sc.fetchBlockScalar; relS

end SaphyrModel.C10
