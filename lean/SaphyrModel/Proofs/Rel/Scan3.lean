import SaphyrModel.Proofs.Rel.Scan2
/-! `RelS` for the functions of `Sc/Scan3.lean`, up to `Scanner::next`. -/
namespace SaphyrModel.C10
open SaphyrModel SaphyrModel.Sc

-- every lemma of the file carries the hypothesis, also where the function does not reach `skip_block_scalar_indent`
set_option linter.unusedSectionVars false
variable [inst : Bespoke]
include inst

/-- `hexLoop` counts digits down (its first number is not fuel) -/
@[relS] theorem RelS.hexLoop (startMark : Marker) (n : Nat) :
    ∀ (k v : Nat), RelS (hexLoop startMark n k v) (hexLoop startMark n k v) := by
  intro k
  induction k <;> intro v <;> unfold Sc.hexLoop <;> relS
@[relS] theorem RelS.resolveEscape (startMark : Marker) :
    RelS (resolveEscape startMark) (resolveEscape startMark) := by
  unfold Sc.resolveEscape; relS
@[relS] theorem RelS.consumeNonWs (single : Bool) (startMark : Marker) :
    ∀ (f1 f2 : Nat) (x0 : Str) (x1 : Bool),
      RelS (consumeNonWs single startMark f1 x0 x1) (consumeNonWs single startMark f2 x0 x1) := by
  refine Nat.rec₂ (fun _ _ _ => .panicL _ _) (fun _ _ _ => .panicR _ _) fun _ _ ih x0 x1 => ?_
  unfold Sc.consumeNonWs; relS
@[relS] theorem RelS.consumeBlanks :
    ∀ (f1 f2 : Nat) (x0 : WsAcc) (x1 : Bool), RelS (consumeBlanks f1 x0 x1) (consumeBlanks f2 x0 x1) := by
  refine Nat.rec₂ (fun _ _ _ => .panicL _ _) (fun _ _ _ => .panicR _ _) fun _ _ ih x0 x1 => ?_
  unfold Sc.consumeBlanks; relS
@[relS] theorem RelS.flowScalarLoop (single : Bool) (startMark : Marker) :
    ∀ (f1 f2 : Nat) (x0 : Str) (x1 : WsAcc),
      RelS (flowScalarLoop single startMark f1 x0 x1) (flowScalarLoop single startMark f2 x0 x1) := by
  refine Nat.rec₂ (fun _ _ _ => .panicL _ _) (fun _ _ _ => .panicR _ _) fun _ _ ih x0 x1 => ?_
  unfold Sc.flowScalarLoop; relS
@[relS] theorem RelS.scanFlowScalar (single : Bool) : RelS (scanFlowScalar single) (scanFlowScalar single) := by
  unfold Sc.scanFlowScalar; relS
@[relS] theorem RelS.fetchFlowScalar (single : Bool) : RelS (fetchFlowScalar single) (fetchFlowScalar single) := by
  unfold Sc.fetchFlowScalar; relS
@[relS] theorem RelS.plainBlanks (indent : Int) (startMark : Marker) :
    ∀ (f1 f2 : Nat) (x0 : PlAcc), RelS (plainBlanks indent startMark f1 x0) (plainBlanks indent startMark f2 x0) := by
  refine Nat.rec₂ (fun _ _ => .panicL _ _) (fun _ _ => .panicR _ _) fun _ _ ih x0 => ?_
  unfold Sc.plainBlanks; relS
@[relS] theorem RelS.plainLoop (indent : Int) (startMark : Marker) :
    ∀ (f1 f2 : Nat) (x0 : PlAcc), RelS (plainLoop indent startMark f1 x0) (plainLoop indent startMark f2 x0) := by
  refine Nat.rec₂ (fun _ _ => .panicL _ _) (fun _ _ => .panicR _ _) fun _ _ ih x0 => ?_
  unfold Sc.plainLoop; relS
@[relS] theorem RelS.scanPlainScalarBody : RelS scanPlainScalarBody scanPlainScalarBody := by
  unfold Sc.scanPlainScalarBody; relS
@[relS] theorem RelS.scanPlainScalar : RelS (scanPlainScalar) (scanPlainScalar) := by unfold Sc.scanPlainScalar; relS
@[relS] theorem RelS.fetchPlainScalar : RelS fetchPlainScalar fetchPlainScalar := by unfold Sc.fetchPlainScalar; relS
@[relS] theorem RelS.markExplicitKey : RelS (Sc.modS Sc.markExplicitKey) (Sc.modS Sc.markExplicitKey) :=
  RelS.modS _ fun _ _ => by unfold Sc.markExplicitKey; dsimp only; split <;> rfl
@[relS] theorem RelS.keyPrologue (s : Sc) (j : In) : RelS (keyPrologue s) (keyPrologue { s with inp := j }) := by
  unfold Sc.keyPrologue; dsimp only; relS
@[relS] theorem RelS.fetchKeyTail (startMark : Marker) : RelS (fetchKeyTail startMark) (fetchKeyTail startMark) := by
  unfold Sc.fetchKeyTail; relS
@[relS] theorem RelS.fetchKey : RelS fetchKey fetchKey := by unfold Sc.fetchKey; relS
@[relS] theorem RelS.valueAfterSimpleKey (sk : SimpleKey) (startMark : Marker) (isImplicit : Bool) :
    RelS (valueAfterSimpleKey sk startMark isImplicit) (valueAfterSimpleKey sk startMark isImplicit) := by
  unfold Sc.valueAfterSimpleKey; relS
@[relS] theorem RelS.valueAfterComplexKey (startMark : Marker) (isImplicit : Bool) :
    RelS (valueAfterComplexKey startMark isImplicit) (valueAfterComplexKey startMark isImplicit) := by
  unfold Sc.valueAfterComplexKey; relS
@[relS] theorem RelS.valueTabCheck : RelS (valueTabCheck) (valueTabCheck) := by unfold Sc.valueTabCheck; relS
@[relS] theorem RelS.fetchValue : RelS fetchValue fetchValue := by unfold Sc.fetchValue; relS
@[relS] theorem RelS.fetchFlowValue : RelS fetchFlowValue fetchFlowValue := by unfold Sc.fetchFlowValue; relS
@[relS] theorem RelS.fetchDocumentEndMarker : RelS fetchDocumentEndMarker fetchDocumentEndMarker := by
  unfold Sc.fetchDocumentEndMarker; relS
@[relS] theorem RelS.fetchSpecial : RelS (fetchSpecial) (fetchSpecial) := by unfold Sc.fetchSpecial; relS
@[relS] theorem RelS.fetchDispatch : RelS (fetchDispatch) (fetchDispatch) := by unfold Sc.fetchDispatch; relS
@[relS] theorem RelS.fetchAfterStart : RelS (fetchAfterStart) (fetchAfterStart) := by unfold Sc.fetchAfterStart; relS
@[relS] theorem RelS.fetchNextToken : RelS fetchNextToken fetchNextToken := by unfold Sc.fetchNextToken; relS
@[relS] theorem RelS.needMoreTokens : RelS (needMoreTokens) (needMoreTokens) := by unfold Sc.needMoreTokens; relS
@[relS] theorem RelS.fetchMoreTokens : ∀ (f1 f2 : Nat), RelS (fetchMoreTokens f1) (fetchMoreTokens f2) := by
  refine Nat.rec₂ (fun _ => .panicL _ _) (fun _ => .panicR _ _) fun _ _ ih => ?_
  unfold Sc.fetchMoreTokens; relS
@[relS] theorem RelS.popToken : RelS (popToken) (popToken) := by unfold Sc.popToken; relS
@[relS] theorem RelS.nextToken : RelS nextToken nextToken := by
  unfold Sc.nextToken; relS

end SaphyrModel.C10
