import SaphyrModel.Proofs.Rel.Base
/-! `RelS` for the functions of `Sc/State.lean`. -/
namespace SaphyrModel.C10
open SaphyrModel SaphyrModel.Sc

@[relS] theorem RelS.lookahead (n) : RelS (lookahead n) (lookahead n) := by unfold Sc.lookahead; relS
@[relS] theorem RelS.peek : RelS peek peek := by unfold Sc.peek; relS
@[relS] theorem RelS.peekNth (n) : RelS (peekNth n) (peekNth n) := by unfold Sc.peekNth; relS
@[relS] theorem RelS.lookCh : RelS lookCh lookCh := by unfold Sc.lookCh; relS
@[relS] theorem RelS.advance (n) : RelS (advance n) (advance n) := by unfold Sc.advance; relS
@[relS] theorem RelS.pushTok (sp t) : RelS (pushTok sp t) (pushTok sp t) := by unfold Sc.pushTok; relS
@[relS] theorem RelS.skipBlank : RelS skipBlank skipBlank := by unfold Sc.skipBlank; relS
@[relS] theorem RelS.skipNonBlank : RelS skipNonBlank skipNonBlank := by unfold Sc.skipNonBlank; relS
@[relS] theorem RelS.skipNNonBlank (n) : RelS (skipNNonBlank n) (skipNNonBlank n) := by unfold Sc.skipNNonBlank; relS
@[relS] theorem RelS.skipNl : RelS skipNl skipNl := by unfold Sc.skipNl; relS
-- `next2Are_agree` holds of characters other than NUL, a side condition that keeps it from the attribute `relS`: the first step by hand
@[relS] theorem RelS.skipLinebreak : RelS skipLinebreak skipLinebreak := by
  unfold Sc.skipLinebreak
  refine RelS.bind (RelS.liftI (next2Are_agree _ _ (by decide) (by decide))) fun _ => ?_
  relS
@[relS] theorem RelS.skipBreak : RelS skipBreak skipBreak := by unfold Sc.skipBreak; relS
@[relS] theorem RelS.allowSimpleKey : RelS allowSimpleKey allowSimpleKey := by unfold Sc.allowSimpleKey; relS
@[relS] theorem RelS.disallowSimpleKey : RelS disallowSimpleKey disallowSimpleKey := by unfold Sc.disallowSimpleKey; relS

-- three functions written as functions of the state, not by `do`: no term for `relS` to follow; they do not look at the input
@[relS] theorem RelS.insertToken (pos : Nat) (tok : Token) : RelS (insertToken pos tok) (insertToken pos tok) :=
  RelS.noInp (fun _ _ => by unfold Sc.insertToken; dsimp only; split <;> rfl)
    fun _ _ _ h => by unfold Sc.insertToken at h; split at h <;> cases h; rfl
@[relS] theorem RelS.tokenPos (n : Nat) : RelS (tokenPos n) (tokenPos n) :=
  RelS.noInp (fun _ _ => by unfold Sc.tokenPos; dsimp only; split <;> rfl)
    fun _ _ _ h => by unfold Sc.tokenPos at h; split at h <;> cases h; rfl
@[relS] theorem RelS.isWithinBlock : RelS isWithinBlock isWithinBlock :=
  RelS.noInp (fun _ _ => rfl) fun _ _ _ h => by cases h; rfl

@[relS] theorem RelS.skipWsToEol (t : SkipTabs) : RelS (skipWsToEol t) (skipWsToEol t) := by
  unfold Sc.skipWsToEol; relS
@[relS] theorem RelS.dropNonBlockTop (col : Nat) :
    RelS (Sc.modS (Sc.dropNonBlockTop col)) (Sc.modS (Sc.dropNonBlockTop col)) :=
  RelS.modS _ fun _ _ => by unfold Sc.dropNonBlockTop; dsimp only; (repeat' split) <;> rfl
@[relS] theorem RelS.rollIndentPush (col : Nat) (number : Option Nat) (tok : TokenType) (mark : Marker) :
    RelS (rollIndentPush col number tok mark) (rollIndentPush col number tok mark) := by
  unfold Sc.rollIndentPush; relS
@[relS] theorem RelS.rollIndent (col : Nat) (number : Option Nat) (tok : TokenType) (mark : Marker) :
    RelS (rollIndent col number tok mark) (rollIndent col number tok mark) := by
  unfold Sc.rollIndent; relS
@[relS] theorem RelS.unrollIndentGo (col : Int) :
    ∀ (f1 f2 : Nat), RelS (unrollIndentGo col f1) (unrollIndentGo col f2) := by
  refine Nat.rec₂ (fun _ => .panicL _ _) (fun _ => .panicR _ _) fun _ _ ih => ?_
  unfold Sc.unrollIndentGo; relS
@[relS] theorem RelS.unrollIndent (col : Int) : RelS (unrollIndent col) (unrollIndent col) := by
  unfold Sc.unrollIndent; relS
@[relS] theorem RelS.rollOneColIndent : RelS (rollOneColIndent) (rollOneColIndent) := by
  unfold Sc.rollOneColIndent; relS
@[relS] theorem RelS.unrollNonBlockIndents : RelS (unrollNonBlockIndents) (unrollNonBlockIndents) := by
  unfold Sc.unrollNonBlockIndents; relS
@[relS] theorem RelS.requiredKey (s : Sc) (j : In) : RelS (requiredKey s) (requiredKey { s with inp := j }) := by
  unfold Sc.requiredKey; dsimp only; relS
@[relS] theorem RelS.saveSimpleKey : RelS (saveSimpleKey) (saveSimpleKey) := by unfold Sc.saveSimpleKey; relS
@[relS] theorem RelS.removeSimpleKey : RelS (removeSimpleKey) (removeSimpleKey) := by unfold Sc.removeSimpleKey; relS
@[relS] theorem RelS.staleSimpleKeys : RelS (staleSimpleKeys) (staleSimpleKeys) := by unfold Sc.staleSimpleKeys; relS
@[relS] theorem RelS.increaseFlowLevel : RelS (increaseFlowLevel) (increaseFlowLevel) := by
  unfold Sc.increaseFlowLevel; relS
@[relS] theorem RelS.decreaseFlowLevel : RelS (decreaseFlowLevel) (decreaseFlowLevel) := by
  unfold Sc.decreaseFlowLevel; relS
@[relS] theorem RelS.endImplicitMapping (mark : Marker) :
    RelS (endImplicitMapping mark) (endImplicitMapping mark) := by
  unfold Sc.endImplicitMapping; relS

end SaphyrModel.C10
