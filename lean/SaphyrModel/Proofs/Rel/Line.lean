import SaphyrModel.Proofs.Rel.State
import SaphyrModel.Proofs.StrEval
/-! The hand-made comparisons (Rel/Chunks, this file, Rel/Indent) follow each side on its own, as a judgement `EvR` of
Proofs/StrEval ("a panic, or a result of which this holds") sequenced along the `do` block, and compare the two at the end
(`OutS.of_sides`). What they share stands in front: `advS`; `Consumed u k u'` (`u'` is `u` with `k` characters consumed, in the
terms of either kind of input) with what `lookahead`, `peek` and `skipBlank` do in its terms and `Sim.consumed` (Rel/Chunks and
Rel/Indent go through both kinds of input at once).

Then `scan_block_scalar_content_line`: a content line is read from the look-ahead buffer while it has
characters and then — if the buffer ran empty before the line ended — character by character
straight from the underlying iterator (`raw_read_non_breakz_ch`), the position being advanced at the
end. On a string input only one of the two paths is ever taken. Both back-ends read exactly the
characters up to the next break or the end. Through the look-ahead window (`Win`) the buffered loop is gone through once
for both kinds of input; the string side is wanted with its exact final state (`line_str`, for Props/C05), so the two
sides have a lemma each. -/
namespace SaphyrModel.C10
open SaphyrModel SaphyrModel.Sc

def nb (c : Char) : Bool := !isBreakz c

def advS (s : Sc) (n : Nat) (i : In) : Sc :=
  { s with inp := i, mark := ⟨s.mark.index + n, s.mark.line, s.mark.col + n⟩ }

theorem advS_zero (s : Sc) : advS s 0 s.inp = s := by cases s; simp [advS]
theorem advS_advS (s : Sc) (a b : Nat) (i j : In) : advS (advS s a i) b j = advS s (a + b) j := by
  simp [advS, Nat.add_assoc]
theorem advS_mark_col (s : Sc) (n : Nat) (i : In) : (advS s n i).mark.col = s.mark.col + n := rfl
theorem advS_inp (s : Sc) (n : Nat) (i : In) : (advS s n i).inp = i := rfl

theorem EvR_eq {α : Type} {m : S α} {u u' : Sc} {a : α} :
    C05T.EvR m u (fun x v => x = a ∧ v = u') ↔ (∃ p, m u = .panic p) ∨ m u = .ok (a, u') :=
  or_congr_right ⟨fun ⟨_, _, h, ha, hu⟩ => ha ▸ hu ▸ h, fun h => ⟨_, _, h, rfl, rfl⟩⟩

-- with `Sc.bind_assoc`: what follows a `do` block is pushed into its branches
theorem M.pure_bind {σ α β : Type} (a : α) (f : α → M σ β) : (Pure.pure a : M σ α) >>= f = f a := rfl

theorem M.ite_bind {σ α β : Type} (c : Prop) [Decidable c] (A B : M σ α) (f : α → M σ β) :
    (if c then A else B) >>= f = if c then A >>= f else B >>= f := by
  split <;> rfl

theorem OutS.of_sides {α : Type} {m1 m2 : S α} {s t : Sc} {R1 R2 : α → Sc → Prop}
    (h1 : C05T.EvR m1 s R1) (h2 : C05T.EvR m2 t R2)
    (h : ∀ a s' b t', R1 a s' → R2 b t' → a = b ∧ Sim s' t') : OutS (m1 s) (m2 t) := by
  rcases h1 with ⟨p, hp⟩ | ⟨a, s', hs, r1⟩
  · rw [hp]; trivial
  · rcases h2 with ⟨p, hp⟩ | ⟨b, t', ht, r2⟩
    · rw [hp]; exact OutS.panicR _ _
    · rw [hs, ht]; exact h a s' b t' r1 r2

theorem Sim.advS {s t : Sc} (h : Sim s t) (n : Nat) {i j : In} (hij : SimIn i j) : Sim (advS s n i) (advS t n j) :=
  ⟨hij, by rw [h.rest]; rfl⟩

def txt (i : In) : Str := i.buf ++ i.iter

/-- `u'` is `u` with `k` characters of its line consumed. A string input stands `k` further in its text (and may have noted
a larger look-ahead request); a buffered input delivers from there on what it would have delivered, however ring and
iterator share the text and however many NULs pad its end. -/
def Consumed (u : Sc) (k : Nat) (u' : Sc) : Prop :=
  ∃ j, u' = advS u k j ∧
    match u.inp.kind with
    | .str => ∃ la', j = { u.inp with iter := u.inp.iter.drop k, la := la' }
    | .buf => j.kind = .buf ∧ TxtEq (txt j) ((txt u.inp).drop k)

theorem Consumed.str_iff {u v : Sc} {k : Nat} (hk : u.inp.kind = .str) :
    Consumed u k v ↔ ∃ la', v = advS u k { u.inp with iter := u.inp.iter.drop k, la := la' } := by
  unfold Consumed; rw [hk]
  exact ⟨fun ⟨_, hv, la', hj⟩ => ⟨la', hj ▸ hv⟩, fun ⟨la', hv⟩ => ⟨_, hv, la', rfl⟩⟩

theorem Consumed.buf_iff {u v : Sc} {k : Nat} (hk : u.inp.kind = .buf) :
    Consumed u k v ↔ ∃ j, v = advS u k j ∧ j.kind = .buf ∧ TxtEq (txt j) ((txt u.inp).drop k) := by
  unfold Consumed; rw [hk]

theorem Consumed.refl (u : Sc) : Consumed u 0 u := by
  refine ⟨u.inp, (advS_zero u).symm, ?_⟩
  split
  · exact ⟨u.inp.la, rfl⟩
  · exact ⟨by assumption, TxtEq.refl _⟩

theorem text_str {i : In} (hk : i.kind = .str) : text i = i.iter := by unfold text; rw [hk]
theorem text_buf {i : In} (hk : i.kind = .buf) : text i = txt i := by unfold text; rw [hk]; rfl

section
variable {u v w : Sc} {a b k : Nat}

theorem Consumed.col (h : Consumed u k v) : v.mark.col = u.mark.col + k := by
  obtain ⟨j, rfl, -⟩ := h; rfl

theorem Consumed.kind (h : Consumed u k v) : v.inp.kind = u.inp.kind := by
  rcases hk : u.inp.kind
  · obtain ⟨la', rfl⟩ := (Consumed.str_iff hk).1 h; exact hk
  · obtain ⟨j, rfl, hj, -⟩ := (Consumed.buf_iff hk).1 h; exact hj

theorem Consumed.text (h : Consumed u k v) : TxtEq (text v.inp) ((text u.inp).drop k) := by
  rcases hk : u.inp.kind
  · obtain ⟨la', rfl⟩ := (Consumed.str_iff hk).1 h
    rw [text_str hk, text_str (by exact hk)]; exact TxtEq.refl _
  · obtain ⟨j, rfl, hj, ht⟩ := (Consumed.buf_iff hk).1 h
    rw [text_buf hk, text_buf (by exact hj)]; exact ht

theorem Consumed.trans (h1 : Consumed u a v) (h2 : Consumed v b w) : Consumed u (a + b) w := by
  have hkv := h1.kind
  rcases hk : u.inp.kind <;> rw [hk] at hkv
  · obtain ⟨la1, rfl⟩ := (Consumed.str_iff hk).1 h1
    obtain ⟨la2, rfl⟩ := (Consumed.str_iff hkv).1 h2
    exact (Consumed.str_iff hk).2 ⟨la2, by simp [advS_advS, advS_inp, List.drop_drop]⟩
  · obtain ⟨j1, rfl, -, ht1⟩ := (Consumed.buf_iff hk).1 h1
    obtain ⟨j2, rfl, hj2, ht2⟩ := (Consumed.buf_iff hkv).1 h2
    refine (Consumed.buf_iff hk).2 ⟨j2, advS_advS .., hj2, ?_⟩
    rw [← List.drop_drop]
    exact ht2.trans (ht1.drop b)
end

/-- states that were related and have consumed the same number of characters are related -/
theorem Sim.consumed {s t s' t' : Sc} {k : Nat} (h : Sim s t) (hs : Consumed s k s') (ht : Consumed t k t') : Sim s' t' := by
  obtain ⟨la', rfl⟩ := (Consumed.str_iff h.inp.ki).1 hs
  obtain ⟨j', rfl, hkj, htx⟩ := (Consumed.buf_iff h.inp.kj).1 ht
  exact h.advS _ ⟨h.inp.ki, hkj, (TxtEq.drop h.inp.same _).trans htx.symm⟩

/-- a look-ahead request consumes nothing: a string input notes it, a buffered input moves characters into the
    ring (NULs past the end) -/
theorem lookahead_adv (n : Nat) (u : Sc) : C05T.EvR (Sc.lookahead n) u fun _ u' => Consumed u 0 u' := by
  rcases hk : u.inp.kind
  · exact .inr ⟨_, _, Sc.lookahead_eq hk n, (Consumed.str_iff hk).2 ⟨_, rfl⟩⟩
  · -- compare with a string input holding the same text (`lookahead_agree`)
    let i : In := { kind := .str, cap := 0, buf := [], iter := txt u.inp, la := 0 }
    have ha := lookahead_agree n i u.inp ⟨rfl, hk, fun _ => rfl⟩
    rw [show In.lookahead n i = .ok ((), { i with la := max i.la n }) by simp [In.lookahead, i]] at ha
    unfold C05T.EvR
    simp only [Sc.lookahead, Sc.liftI]
    cases hj : In.lookahead n u.inp with
    | panic p => exact .inl ⟨p, rfl⟩
    | err e => rw [hj] at ha; simp [AgreeR] at ha
    | ok q =>
      rw [hj] at ha
      exact .inr ⟨_, _, rfl, (Consumed.buf_iff hk).2 ⟨q.2, rfl, ha.2.1.kj, TxtEq.symm ha.2.1.same⟩⟩

theorem peek_text (u : Sc) : C05T.EvR Sc.peek u fun c u' => c = (text u.inp).headD '\x00' ∧ u' = u := by
  unfold C05T.EvR text Sc.peek Sc.liftI In.peek
  rcases hk : u.inp.kind
  · simp
  · cases hb : u.inp.buf <;> simp

theorem skipBlank_adv (u : Sc) : C05T.EvR Sc.skipBlank u fun _ u' => Consumed u 1 u' := by
  rcases hk : u.inp.kind
  · exact .inr ⟨_, _, Sc.skipBlank_eq hk, (Consumed.str_iff hk).2 ⟨u.inp.la, rfl⟩⟩
  · cases hb : u.inp.buf with
    | nil => exact .inl ⟨.skipEmpty, by simp [Sc.skipBlank, Sc.liftI, In.skip, hk, hb, Bind.bind]⟩
    | cons b r =>
      refine .inr ⟨(), advS u 1 { u.inp with buf := r }, by simp [Sc.skipBlank, Sc.liftI, In.skip, hk, hb, advance, modS, Bind.bind, advS],
        (Consumed.buf_iff hk).2 ⟨_, rfl, hk, ?_⟩⟩
      simp only [txt, hb]
      exact TxtEq.refl _

theorem same_line : ∀ (l1 l2 : Str), (∀ n, l1.getD n '\x00' = l2.getD n '\x00') →
    l1.takeWhile nb = l2.takeWhile nb ∧ ∀ n, (l1.dropWhile nb).getD n '\x00' = (l2.dropWhile nb).getD n '\x00' := by
  have hz : nb '\x00' = false := by decide
  refine TxtEq.induction ⟨rfl, fun _ => rfl⟩ (fun m h => ?_) (fun l h => ?_) fun a l m h ih => ?_
  · simp only [List.takeWhile_cons, List.dropWhile_cons, hz]; exact ⟨rfl, TxtEq.nil_cons_iff.2 ⟨rfl, h⟩⟩
  · simp only [List.takeWhile_cons, List.dropWhile_cons, hz]; exact ⟨rfl, (TxtEq.nil_cons_iff.2 ⟨rfl, h.symm⟩).symm⟩
  · cases hn : nb a <;> simp only [List.takeWhile_cons, List.dropWhile_cons, hn]
    · exact ⟨rfl, TxtEq.cons_iff.2 ⟨rfl, h⟩⟩
    · exact ⟨by rw [ih.1], ih.2⟩

theorem clb_step (f : Nat) (str : Str) (s : Sc) :
    contentLineBuffered (f + 1) str s =
      if s.inp.bufIsEmpty = true then .ok (str, s)
      else match Sc.liftI In.nextIsBreakz s with
        | .ok (b, s1) =>
          if b = true then .ok (str, s1)
          else match Sc.peek s1 with
            | .ok (c, s2) => (match skipBlank s2 with
              | .ok (_, s3) => contentLineBuffered f (str ++ [c]) s3
              | .err e => .err e | .panic p => .panic p)
            | .err e => .err e | .panic p => .panic p
        | .err e => .err e | .panic p => .panic p := by
  conv => lhs; unfold contentLineBuffered
  simp only [Bind.bind, getS]
  cases hb : s.inp.bufIsEmpty <;> simp only [Bool.false_eq_true, ↓reduceIte]
  · rcases Sc.liftI In.nextIsBreakz s with ⟨⟨b, s1⟩⟩ | _ | _
    · simp only
      cases b <;> simp only [Bool.false_eq_true, ↓reduceIte]
      · rcases Sc.peek s1 with ⟨⟨c, s2⟩⟩ | _ | _
        · simp only
          rcases skipBlank s2 with ⟨⟨_, s3⟩⟩ | _ | _ <;> rfl
        · rfl
        · rfl
      · rfl
    · rfl
    · rfl
  · rfl

/-- The look-ahead window of an input holds `W`: the ring of a buffered input, the remaining text of a string input that
has requested something (one that has not calls its window empty: `buf_is_empty`). -/
def Win (i : In) (W : Str) : Prop :=
  match i.kind with
  | .str => i.la ≠ 0 ∧ i.iter = W
  | .buf => i.buf = W

def setWin (i : In) (W : Str) : In :=
  match i.kind with
  | .str => { i with iter := W }
  | .buf => { i with buf := W }

theorem setWin_str {i : In} (hk : i.kind = .str) (W : Str) : setWin i W = { i with iter := W } := by unfold setWin; rw [hk]
theorem setWin_buf {i : In} (hk : i.kind = .buf) (W : Str) : setWin i W = { i with buf := W } := by unfold setWin; rw [hk]
theorem setWin_setWin (i : In) (V W : Str) : setWin (setWin i V) W = setWin i W := by
  unfold setWin; rcases hk : i.kind <;> simp
theorem Win.self {i : In} {W : Str} (h : Win i W) : setWin i W = i := by
  obtain ⟨k, cap, buf, iter, la⟩ := i; cases k <;> simp_all [Win, setWin]
theorem Win.set {i : In} {W : Str} (h : Win i W) (V : Str) : Win (setWin i V) V := by
  unfold Win setWin at *; rcases hk : i.kind <;> simp_all

section
variable {s : Sc} {c : Char} {r : Str} (h : Win s.inp (c :: r))
include h
theorem Win.guard : s.inp.bufIsEmpty = false := by
  unfold Win at h; rcases hk : s.inp.kind <;> simp_all [In.bufIsEmpty, In.buflen]
theorem Win.nextIsBreakz : Sc.liftI In.nextIsBreakz s = .ok (isBreakz c, s) := by
  unfold Win at h; rcases hk : s.inp.kind <;>
    simp_all [Sc.liftI, In.nextIsBreakz, In.nextIs, In.peek, Bind.bind, Pure.pure]
theorem Win.peek : Sc.peek s = .ok (c, s) := by
  unfold Win at h; rcases hk : s.inp.kind <;> simp_all [Sc.peek, Sc.liftI, In.peek]
theorem Win.skipBlank : Sc.skipBlank s = .ok ((), advS s 1 (setWin s.inp r)) := by
  unfold Win at h; rcases hk : s.inp.kind <;>
    simp_all [Sc.skipBlank, Sc.liftI, In.skip, advance, modS, Bind.bind, advS, setWin]
end

theorem Win.str {i : In} (hk : i.kind = .str) (h : i.la ≠ 0) : Win i i.iter := by
  unfold Win; rw [hk]; exact ⟨h, rfl⟩
theorem Win.buf {i : In} (hk : i.kind = .buf) : Win i i.buf := by unfold Win; rw [hk]
/-- an empty window stops the buffered loop at once (a string input: at the end of its text) -/
theorem clb_empty (f : Nat) (str : Str) (s : Sc) (h : Win s.inp []) : contentLineBuffered (f + 1) str s = .ok (str, s) := by
  rw [clb_step]
  unfold Win at h; rcases hk : s.inp.kind <;>
    simp_all [In.bufIsEmpty, In.buflen, Sc.liftI, In.nextIsBreakz, In.nextIs]

theorem bufLoop_win : ∀ (fuel : Nat) (str : Str) (s : Sc) (W : Str), Win s.inp W →
    C05T.EvR (contentLineBuffered fuel str) s fun l s' => l = str ++ W.takeWhile nb ∧
      s' = advS s (W.takeWhile nb).length (setWin s.inp (W.dropWhile nb)) := by
  intro fuel
  induction fuel with
  | zero => intro str s W _; exact Or.inl ⟨_, rfl⟩
  | succ f ih =>
    intro str s W h
    rw [EvR_eq]
    cases W with
    | nil => right; rw [clb_empty f str s h]; simp [h.self, advS_zero]
    | cons c r =>
      rw [clb_step, h.guard, h.nextIsBreakz]
      by_cases hc : isBreakz c = true
      · right; simp [hc, nb, h.self, advS_zero]
      · have hn : nb c = true := by simp [nb, hc]
        simp only [hc, Bool.false_eq_true, ↓reduceIte, h.peek, h.skipBlank]
        simpa [EvR_eq, List.takeWhile_cons, List.dropWhile_cons, hn, advS_advS, advS_inp, setWin_setWin, Nat.add_comm] using
          ih (str ++ [c]) (advS s 1 (setWin s.inp r)) r (h.set r)

theorem clr_step (f : Nat) (line : Str) (s : Sc) :
    contentLineRaw (f + 1) line s =
      match Sc.liftI In.rawReadNonBreakzCh s with
      | .ok (some c, s1) => contentLineRaw f (line ++ [c]) s1
      | .ok (none, s1) => .ok (line, s1)
      | .err e => .err e | .panic p => .panic p := by
  conv => lhs; unfold contentLineRaw
  simp only [Bind.bind]
  rcases Sc.liftI In.rawReadNonBreakzCh s with ⟨⟨o, s1⟩⟩ | _ | _
  · cases o <;> rfl
  · rfl
  · rfl

theorem rawRead_str_eval (s : Sc) (hk : s.inp.kind = .str) :
    Sc.liftI In.rawReadNonBreakzCh s = match s.inp.iter with
      | [] => .ok (none, s)
      | c :: r => if isBreakz c = true then .ok (none, s) else .ok (some c, { s with inp := { s.inp with iter := r } }) := by
  simp only [Sc.liftI, In.rawReadNonBreakzCh]
  cases hi : s.inp.iter with
  | nil => simp
  | cons c r =>
    by_cases hc : isBreakz c = true
    · simp [hc, hk]
    · simp [hc]

theorem rawLoop_str : ∀ (fuel : Nat) (line : Str) (s : Sc), s.inp.kind = .str →
    C05T.EvR (contentLineRaw fuel line) s fun l s' => l = line ++ s.inp.iter.takeWhile nb ∧
      s' = { s with inp := { s.inp with iter := s.inp.iter.dropWhile nb } } := by
  intro fuel
  induction fuel with
  | zero => intro line s _; exact .inl ⟨_, rfl⟩
  | succ f ih =>
    intro line s hk
    rw [EvR_eq, clr_step, rawRead_str_eval s hk]
    rcases hi : s.inp.iter with _ | ⟨c, r⟩
    · exact .inr (by simp [In.with_iter_eq hi])
    · cases hc : isBreakz c
      · simpa [EvR_eq, hc, nb] using ih (line ++ [c]) { s with inp := { s.inp with iter := r } } hk
      · exact .inr (by simp [hc, nb, In.with_iter_eq hi])

/-- **string side**: the content line is read up to the next break or the end, whichever path is taken -/
theorem line_str_ev (str : Str) (s : Sc) (hk : s.inp.kind = .str) :
    C05T.EvR (scanBlockScalarContentLine str) s fun l s' => l = str ++ s.inp.iter.takeWhile nb ∧
      s' = advS s (s.inp.iter.takeWhile nb).length { s.inp with iter := s.inp.iter.dropWhile nb } := by
  unfold scanBlockScalarContentLine
  refine C05T.EvR.getS_bind ?_
  by_cases hla : s.inp.la = 0
  · -- nothing was ever requested: the buffered loop stops at once, the raw loop reads the line
    have hbe : s.inp.bufIsEmpty = true := by simp [In.bufIsEmpty, In.buflen, hk, hla]
    have h1 : contentLineBuffered (s.inp.remaining + 2) str s = .ok (str, s) := by rw [clb_step, hbe]; rfl
    rw [C05T.EvR, bind_ok h1]
    refine C05T.EvR.getS_bind ?_
    rw [if_pos hbe]
    refine (rawLoop_str _ [] s hk).bind fun l s2 ⟨hl, hs2⟩ => ?_
    exact .inr ⟨_, _, rfl, by simp [hl], by simp [hl, hs2, advS]⟩
  · refine (bufLoop_win _ str s _ (.str hk hla)).bind fun l s1 ⟨hl, hs1⟩ => C05T.EvR.getS_bind ?_
    rw [setWin_str hk] at hs1
    have hbe : s1.inp.bufIsEmpty = false := by simp [hs1, advS, In.bufIsEmpty, In.buflen, hk, hla]
    rw [if_neg (by simp [hbe])]
    exact .inr ⟨_, _, rfl, hl, hs1⟩

theorem line_str (str : Str) (s : Sc) (hk : s.inp.kind = .str) :
    (∃ p, scanBlockScalarContentLine str s = .panic p) ∨
    scanBlockScalarContentLine str s = .ok (str ++ s.inp.iter.takeWhile nb,
      advS s (s.inp.iter.takeWhile nb).length { s.inp with iter := s.inp.iter.dropWhile nb }) :=
  EvR_eq.1 (line_str_ev str s hk)

theorem bufIsEmpty_buf (i : In) (hk : i.kind = .buf) : i.bufIsEmpty = i.buf.isEmpty := by
  simp [In.bufIsEmpty, In.buflen, hk]
  cases i.buf <;> simp

/-- the raw loop on a buffered input whose buffer is empty reads the rest of the line from the iterator
    and leaves the break (if any) in the buffer -/
theorem rawLoop_buf : ∀ (fuel : Nat) (line : Str) (t : Sc), t.inp.kind = .buf → t.inp.buf = [] →
    C05T.EvR (contentLineRaw fuel line) t fun l t' => l = line ++ t.inp.iter.takeWhile nb ∧
      ∃ j', t' = { t with inp := j' } ∧ j'.kind = .buf ∧ j'.buf ++ j'.iter = t.inp.iter.dropWhile nb := by
  intro fuel
  induction fuel with
  | zero => intro line t _ _; exact .inl ⟨_, rfl⟩
  | succ f ih =>
    intro line t hk hb
    unfold C05T.EvR
    rw [clr_step]
    simp only [Sc.liftI, In.rawReadNonBreakzCh]
    rcases hi : t.inp.iter with _ | ⟨c, r⟩
    · exact .inr ⟨_, _, rfl, by simp, t.inp, rfl, hk, by simp [hb, hi]⟩
    · cases hc : isBreakz c
      · simp only [hc, Bool.false_eq_true, ↓reduceIte]
        refine (ih (line ++ [c]) { t with inp := { t.inp with iter := r } } hk hb).mono fun l t' h => ?_
        simpa [hc, nb] using h
      · simp only [hc, ↓reduceIte, hk, hb, List.length_nil]
        by_cases hcap : 0 ≥ t.inp.cap
        · left; simp [hcap]
        · simp only [hcap, ↓reduceIte, List.nil_append]
          exact .inr ⟨_, _, rfl, by simp [hc, nb], _, rfl, rfl, by simp [hc, nb]⟩

theorem takeWhile_append_stop (p : Char → Bool) (l m : Str) (c : Char) (r : Str) (h : l.dropWhile p = c :: r) :
    (l ++ m).takeWhile p = l.takeWhile p ∧ (l ++ m).dropWhile p = l.dropWhile p ++ m := by
  induction l with
  | nil => simp at h
  | cons a t ih => by_cases ha : p a = true <;> simp_all

theorem takeWhile_append_all (p : Char → Bool) (l m : Str) (h : l.dropWhile p = []) :
    (l ++ m).takeWhile p = l ++ m.takeWhile p ∧ (l ++ m).dropWhile p = m.dropWhile p ∧ l.takeWhile p = l := by
  induction l with
  | nil => simp
  | cons a t ih => by_cases ha : p a = true <;> simp_all

/-- **buffered side**: the content line is read up to the next break or the end: first from the buffer,
    then — if the buffer ran empty — from the iterator behind it -/
theorem line_buf_ev (str : Str) (t : Sc) (hk : t.inp.kind = .buf) :
    C05T.EvR (scanBlockScalarContentLine str) t fun l t' => ∃ j',
      l = str ++ (t.inp.buf ++ t.inp.iter).takeWhile nb ∧ t' = advS t ((t.inp.buf ++ t.inp.iter).takeWhile nb).length j' ∧
      j'.kind = .buf ∧ j'.buf ++ j'.iter = (t.inp.buf ++ t.inp.iter).dropWhile nb := by
  unfold scanBlockScalarContentLine
  refine C05T.EvR.getS_bind ((bufLoop_win _ str t _ (.buf hk)).bind fun l t1 ⟨hl, ht1⟩ => C05T.EvR.getS_bind ?_)
  rw [setWin_buf hk] at ht1
  have hbe : t1.inp.bufIsEmpty = (t.inp.buf.dropWhile nb).isEmpty := by rw [ht1]; exact bufIsEmpty_buf _ hk
  cases hd : t.inp.buf.dropWhile nb with
  | cons c r =>
    -- the line ends inside the buffer
    obtain ⟨h1, h2⟩ := takeWhile_append_stop nb t.inp.buf t.inp.iter c r hd
    rw [if_neg (by simp [hbe, hd])]
    exact .inr ⟨_, _, rfl, { t.inp with buf := t.inp.buf.dropWhile nb }, by rw [hl, h1], by rw [ht1, h1], hk, by rw [h2]⟩
  | nil =>
    -- the buffer is used up: the rest of the line comes from the iterator
    obtain ⟨h1, h2, h3⟩ := takeWhile_append_all nb t.inp.buf t.inp.iter hd
    rw [hd] at ht1
    rw [if_pos (by simp [hbe, hd])]
    refine (rawLoop_buf _ [] t1 (by rw [ht1]; exact hk) (by rw [ht1]; rfl)).bind fun l2 t2 ⟨hl2, j', ht2, hkj, htx⟩ => ?_
    have hi : t1.inp.iter = t.inp.iter := by rw [ht1]; rfl
    rw [hi] at hl2 htx
    refine .inr ⟨_, _, rfl, j', by simp [hl, hl2, h1, h3], ?_, hkj, by rw [htx, h2]⟩
    simp [ht2, ht1, hl2, h1, h3, advS, Nat.add_assoc]

theorem line_buf (str : Str) (t : Sc) (hk : t.inp.kind = .buf) :
    (∃ p, scanBlockScalarContentLine str t = .panic p) ∨
    ∃ j', scanBlockScalarContentLine str t = .ok (str ++ (t.inp.buf ++ t.inp.iter).takeWhile nb,
        advS t ((t.inp.buf ++ t.inp.iter).takeWhile nb).length j') ∧
      j'.kind = .buf ∧ j'.buf ++ j'.iter = (t.inp.buf ++ t.inp.iter).dropWhile nb :=
  (line_buf_ev str t hk).imp_right fun ⟨_, _, hok, j', hl, ht', h⟩ => ⟨j', by rw [hok, hl, ht'], h⟩

/-- **`scan_block_scalar_content_line` agrees across back-ends**: the buffered-then-raw reading of the
    buffered input and whichever single path the string input takes read the same characters, advance the
    position by the same amount and leave the two inputs seeing the same text -/
@[relS] theorem line_rel (str : Str) : RelS (scanBlockScalarContentLine str) (scanBlockScalarContentLine str) := by
  refine ⟨fun s t hst => OutS.of_sides (line_str_ev str s hst.inp.ki) (line_buf_ev str t hst.inp.kj)
    fun l s' l' t' ⟨hl, hs'⟩ ⟨j', hl', ht', hkj, htx⟩ => ?_⟩
  obtain ⟨h1, h2⟩ := same_line s.inp.iter (t.inp.buf ++ t.inp.iter) hst.inp.same
  rw [hl, hs', hl', ht', h1]
  exact ⟨rfl, hst.advS _ ⟨hst.inp.ki, hkj, htx ▸ h2⟩⟩

end SaphyrModel.C10
