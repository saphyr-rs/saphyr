import Lean.Meta.Tactic.Simp.RegisterCommand
/-- `Agrees op` for the operations of the `Input` interface and `RelS (f …) (f …)` for the scanner functions gone through so
far: what the tactic `relS` closes a call with. -/
register_simp_attr relS
