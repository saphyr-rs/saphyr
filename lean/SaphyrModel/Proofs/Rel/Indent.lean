import SaphyrModel.Proofs.Rel.Line
/-! `skip_block_scalar_indent`: the spaces in front of a block-scalar line are skipped up to the content
indentation. When the indentation fits the look-ahead buffer (`indent < bufmaxlen − 2`) one look-ahead
request is made and the spaces are skipped; otherwise the buffer is refilled again and again
(`skip_block_scalar_indent` in chunks). The two back-ends have different `bufmaxlen`s and may take
different paths; all paths skip the same spaces.

Both kinds of input are followed together, in the terms of `Consumed u k u'` (Rel/Line.lean): the inner loop consumes spaces
only and no more than are wanted (`spaces_all`), and spaces already skipped can be dropped from the text and from the number
wanted (`spc_drop`), so every round of the chunked loop (`big_all`) leaves the same job from where it stands. The two sides
are compared at the end (`part_rel`). -/
namespace SaphyrModel.C10
open SaphyrModel SaphyrModel.Sc

/-- number of leading spaces of a text, at most `n` -/
def spc : Nat → Str → Nat
  | 0, _ => 0
  | _ + 1, [] => 0
  | n + 1, c :: r => if c == ' ' then spc n r + 1 else 0

-- In the inductions along `spc` the cases are those of its definition: nothing more wanted, the end of the text, a space,
-- another character.

theorem spc_le (n : Nat) (l : Str) : spc n l ≤ n := by
  fun_induction spc n l <;> omega

theorem spc_le_len (n : Nat) (l : Str) : spc n l ≤ l.length := by
  fun_induction spc n l <;> simp <;> omega

theorem spc_txtEq : ∀ (n : Nat) (l1 l2 : Str), TxtEq l1 l2 → spc n l1 = spc n l2 := by
  intro n l1 l2 h
  refine TxtEq.induction (P := fun l1 l2 => ∀ n, spc n l1 = spc n l2) (fun _ => rfl) (fun m _ n => ?_) (fun l _ n => ?_)
    (fun a l m _ ih n => ?_) l1 l2 h n
  · cases n <;> rfl
  · cases n <;> rfl
  · cases n with
    | zero => rfl
    | succ n => simp only [spc, ih n]

theorem spc_head {l : Str} (h : l.headD '\x00' ≠ ' ') (n : Nat) : spc n l = 0 := by
  rcases n with _ | n <;> rcases l with _ | ⟨c, r⟩ <;> simp_all [spc]

/-- spaces already counted can be dropped from the text and from the number wanted -/
theorem spc_drop {n k : Nat} {l : Str} (h : k ≤ spc n l) : spc n l = k + spc (n - k) (l.drop k) := by
  fun_induction spc n l generalizing k with
  | case1 => simp_all [spc]
  | case2 => simp_all [spc]
  | case3 n c r hc ih =>
    cases k with
    | zero => simp [spc, hc]
    | succ k =>
      rw [List.drop_succ_cons, Nat.succ_sub_succ, ih (k := k) (by omega)]
      omega
  | case4 n c r hc => simp_all [spc]

theorem sp_step (ind : Nat) (g : Bool) (f : Nat) (s : Sc) :
    skipBlockScalarIndentSpaces ind g (f + 1) s =
      if (g && s.inp.bufIsEmpty) = true then .ok ((), s)
      else if s.mark.col < ind then
        match Sc.peek s with
        | .ok (c, s1) =>
          if (c == ' ') = true then
            (match skipBlank s1 with
              | .ok (_, s2) => skipBlockScalarIndentSpaces ind g f s2
              | .err e => .err e | .panic p => .panic p)
          else .ok ((), s1)
        | .err e => .err e | .panic p => .panic p
      else .ok ((), s) := by
  conv => lhs; unfold skipBlockScalarIndentSpaces
  simp only [Bind.bind, getS]
  cases hb : (g && s.inp.bufIsEmpty) <;> simp only [Bool.false_eq_true, ↓reduceIte]
  · by_cases hc : s.mark.col < ind
    · simp only [hc, ↓reduceIte]
      rcases Sc.peek s with ⟨⟨c, s1⟩⟩ | _ | _
      · simp only
        cases hcc : (c == ' ') <;> simp only [Bool.false_eq_true, ↓reduceIte]
        · rfl
        · rcases skipBlank s1 with ⟨⟨_, s2⟩⟩ | _ | _ <;> rfl
      · rfl
      · rfl
    · simp only [hc, ↓reduceIte]; rfl
  · rfl

theorem Consumed.spc {u v : Sc} (h : Consumed u 0 v) (ind : Nat) :
    spc (ind - u.mark.col) (C10.text u.inp) = spc (ind - v.mark.col) (C10.text v.inp) := by
  rw [h.col]; exact (spc_txtEq _ _ _ h.text).symm

/-- The inner loop skips spaces only and no further than the indentation. Without the guard it skips them all: it cannot stop
at the end of a ring (it would `peek` at nothing). -/
theorem spaces_all (ind : Nat) (g : Bool) : ∀ (fuel : Nat) (u : Sc),
    C05T.EvR (skipBlockScalarIndentSpaces ind g fuel) u fun _ u' => ∃ k, Consumed u k u' ∧
      k ≤ spc (ind - u.mark.col) (text u.inp) ∧ (g = false → k = spc (ind - u.mark.col) (text u.inp)) := by
  intro fuel
  induction fuel with
  | zero => intro u; exact .inl ⟨_, rfl⟩
  | succ f ih =>
    intro u
    unfold skipBlockScalarIndentSpaces
    refine C05T.EvR.getS_bind ?_
    split
    · exact .inr ⟨_, _, rfl, 0, .refl u, Nat.zero_le _, fun hg => by simp_all⟩
    by_cases hc : u.mark.col < ind
    · rw [if_pos hc]
      refine (peek_text u).bind fun c u0 ⟨hc0, hu0⟩ => ?_
      rw [hc0, hu0]
      by_cases hsp : (text u.inp).headD '\x00' = ' '
      · rw [if_pos (by simpa using hsp)]
        refine (skipBlank_adv u).bind fun _ u1 h1 => (ih u1).mono fun _ u' ⟨k, hk, hle, hex⟩ => ?_
        have e : spc (ind - u.mark.col) (text u.inp) = 1 + spc (ind - u1.mark.col) (text u1.inp) := by
          obtain ⟨r, hr⟩ := headD_ne_nul hsp (by decide)
          obtain ⟨m, hm⟩ : ∃ m, ind - u.mark.col = m + 1 := ⟨ind - u.mark.col - 1, by omega⟩
          rw [spc_txtEq _ _ _ h1.text, h1.col, show ind - (u.mark.col + 1) = m by omega, hr, hm]
          simp [spc, Nat.add_comm]
        exact ⟨1 + k, h1.trans hk, by omega, fun hg => by rw [hex hg, e]⟩
      · rw [if_neg (by simpa using hsp)]
        exact .inr ⟨_, _, rfl, 0, .refl u, Nat.zero_le _, fun _ => (spc_head hsp _).symm⟩
    · rw [if_neg hc, show ind - u.mark.col = 0 by omega]
      exact .inr ⟨_, _, rfl, 0, .refl u, Nat.zero_le _, fun _ => rfl⟩

theorem bufmaxlen_bind {β : Type} {f : Nat → S β} {u : Sc} {T : β → Sc → Prop} (h : C05T.EvR (f u.inp.bufmaxlen) u T) :
    C05T.EvR (Sc.bufmaxlen >>= f) u T := h

theorem big_step (ind f : Nat) (s : Sc) :
    skipBlockScalarIndentBig ind (f + 1) s =
      match Sc.lookahead s.inp.bufmaxlen s with
      | .ok (_, s1) =>
        (match skipBlockScalarIndentSpaces ind true (s1.inp.remaining + 2) s1 with
          | .ok (_, s2) =>
            if (s2.mark.col == ind) = true then .ok ((), s2)
            else if s2.inp.bufIsEmpty = true then skipBlockScalarIndentBig ind f s2
            else (match Sc.peek s2 with
              | .ok (c, s3) => if (c != ' ') = true then .ok ((), s3) else skipBlockScalarIndentBig ind f s3
              | .err e => .err e | .panic p => .panic p)
          | .err e => .err e | .panic p => .panic p)
      | .err e => .err e | .panic p => .panic p := by
  conv => lhs; unfold skipBlockScalarIndentBig
  simp only [Bind.bind, Sc.bufmaxlen, getS]
  rcases Sc.lookahead s.inp.bufmaxlen s with ⟨⟨_, s1⟩⟩ | _ | _
  · simp only
    rcases skipBlockScalarIndentSpaces ind true (s1.inp.remaining + 2) s1 with ⟨⟨_, s2⟩⟩ | _ | _
    · simp only
      cases h1 : (s2.mark.col == ind) <;> simp only [Bool.false_eq_true, ↓reduceIte]
      · cases h2 : s2.inp.bufIsEmpty <;> simp only [Bool.false_eq_true, ↓reduceIte]
        · rcases Sc.peek s2 with ⟨⟨c, s3⟩⟩ | _ | _
          · simp only
            cases h3 : (c != ' ') <;> simp only [Bool.false_eq_true, ↓reduceIte] <;> rfl
          · rfl
          · rfl
      · rfl
    · rfl
    · rfl
  · rfl
  · rfl

/-- The chunked loop skips the spaces up to the indentation, on either kind of input: a string input in one round, a
    buffered input refilling its ring as often as needed. -/
theorem big_all (ind : Nat) : ∀ (fuel : Nat) (u : Sc),
    C05T.EvR (skipBlockScalarIndentBig ind fuel) u fun _ u' => Consumed u (spc (ind - u.mark.col) (text u.inp)) u' := by
  intro fuel
  induction fuel with
  | zero => intro u; exact .inl ⟨_, rfl⟩
  | succ f ih =>
    intro u
    unfold skipBlockScalarIndentBig
    refine bufmaxlen_bind <| (lookahead_adv _ u).bind fun _ u1 h1 => C05T.EvR.getS_bind ?_
    refine (spaces_all ind true _ u1).bind fun _ u2 ⟨k, hk, hle, _⟩ => C05T.EvR.getS_bind ?_
    -- `k` spaces are skipped; what is left to skip is what the loop would skip from here
    have hrest : spc (ind - u.mark.col) (text u.inp) = k + spc (ind - u2.mark.col) (text u2.inp) := by
      rw [h1.spc, spc_drop hle, hk.col, Nat.sub_sub, spc_txtEq _ _ _ hk.text]
    rw [hrest]
    have h2 : Consumed u k u2 := by simpa using h1.trans hk
    have again := (ih u2).mono fun _ u' h => h2.trans h
    have stop : spc (ind - u2.mark.col) (text u2.inp) = 0 → Consumed u (k + spc (ind - u2.mark.col) (text u2.inp)) u2 :=
      fun h0 => by rw [h0]; exact h2
    by_cases hreach : u2.mark.col = ind
    · rw [if_pos (by simpa using hreach)]
      exact .inr ⟨_, _, rfl, stop (by rw [hreach, Nat.sub_self]; rfl)⟩
    rw [if_neg (by simpa using hreach)]
    split
    · exact again
    · refine (peek_text u2).bind fun c u3 ⟨hc, hu3⟩ => ?_
      rw [hc, hu3]
      by_cases hsp : (text u2.inp).headD '\x00' = ' '
      · rw [hsp, if_neg (by decide)]; exact again
      · rw [if_pos (bne_iff_ne.2 hsp)]; exact .inr ⟨_, _, rfl, stop (spc_head hsp _)⟩

/-- the first half of one round of `skip_block_scalar_indent`: the spaces up to the indentation -/
def indentPart (ind : Nat) : S Unit :=
  Sc.bufmaxlen >>= fun cap => getS >>= fun s =>
    if ind + 2 < cap then (Sc.lookahead cap >>= fun _ => skipBlockScalarIndentSpaces ind false (s.inp.remaining + 2))
    else (skipBlockScalarIndentBig ind (s.inp.remaining + 2) >>= fun _ => Sc.lookahead 2)

theorem indent_unfold (ind f : Nat) (breaks : Str) :
    skipBlockScalarIndent ind (f + 1) breaks =
      indentPart ind >>= fun _ => Sc.liftI In.nextIsBreak >>= fun b =>
        if b = true then readBreak breaks >>= fun br => skipBlockScalarIndent ind f br else Pure.pure breaks := by
  conv => lhs; unfold skipBlockScalarIndent
  simp only [indentPart, Sc.bind_assoc, M.ite_bind]

/-- Whichever path is taken, on either kind of input, the spaces up to the indentation are skipped. -/
theorem part_all (ind : Nat) (u : Sc) :
    C05T.EvR (indentPart ind) u fun _ u' => Consumed u (spc (ind - u.mark.col) (text u.inp)) u' := by
  refine bufmaxlen_bind (C05T.EvR.getS_bind ?_)
  split
  · -- one request, and the unguarded loop skips all the spaces
    refine (lookahead_adv _ u).bind fun _ u1 h1 => (spaces_all ind false _ u1).mono fun _ u2 ⟨k, hk, _, hex⟩ => ?_
    rw [h1.spc, ← hex rfl]
    simpa using h1.trans hk
  · exact (big_all ind _ u).bind fun _ u1 h1 => (lookahead_adv 2 u1).mono fun _ u2 h2 => h1.trans h2

/-- **string side**: whichever path is taken, the spaces up to the indentation are skipped -/
theorem part_str (ind : Nat) (u : Sc) (hk : u.inp.kind = .str) :
    (∃ p, indentPart ind u = .panic p) ∨
    ∃ la', indentPart ind u = .ok ((), advS u (spc (ind - u.mark.col) u.inp.iter)
      { u.inp with iter := u.inp.iter.drop (spc (ind - u.mark.col) u.inp.iter), la := la' }) := by
  refine (part_all ind u).imp_right fun ⟨_, u', hok, h⟩ => ?_
  rw [text_str hk] at h
  obtain ⟨la', rfl⟩ := (Consumed.str_iff hk).1 h
  exact ⟨la', hok⟩

/-- **buffered side**: whichever path is taken, the spaces up to the indentation are skipped and the text
    that follows is unchanged -/
theorem part_buf (ind : Nat) (u : Sc) (hk : u.inp.kind = .buf) :
    (∃ p, indentPart ind u = .panic p) ∨
    ∃ j', indentPart ind u = .ok ((), advS u (spc (ind - u.mark.col) (txt u.inp)) j') ∧
      j'.kind = .buf ∧ TxtEq (txt j') ((txt u.inp).drop (spc (ind - u.mark.col) (txt u.inp))) := by
  refine (part_all ind u).imp_right fun ⟨_, u', hok, h⟩ => ?_
  rw [text_buf hk] at h
  obtain ⟨j', rfl, hj⟩ := (Consumed.buf_iff hk).1 h
  exact ⟨j', hok, hj⟩

theorem part_rel (ind : Nat) : RelS (indentPart ind) (indentPart ind) := by
  refine ⟨fun s t hst => OutS.of_sides (part_all ind s) (part_all ind t) fun _ s' _ t' hs ht => ⟨rfl, ?_⟩⟩
  have hcnt : spc (ind - t.mark.col) (text t.inp) = spc (ind - s.mark.col) (text s.inp) := by
    rw [show t.mark.col = s.mark.col by rw [hst.rest]]; exact (spc_txtEq _ _ _ hst.inp.toSame).symm
  exact hst.consumed hs (hcnt ▸ ht)

/-- **`skip_block_scalar_indent` agrees across back-ends** whatever their `bufmaxlen`s -/
theorem indent_rel (ind : Nat) : ∀ (f1 f2 : Nat) (b : Str), RelS (skipBlockScalarIndent ind f1 b) (skipBlockScalarIndent ind f2 b) := by
  refine Nat.rec₂ (fun _ _ => .panicL _ _) (fun _ _ => .panicR _ _) fun n1 n2 ih b => ?_
  rw [indent_unfold, indent_unfold]
  have hp := part_rel ind
  -- `RelS.readBreak` (Rel/Scan2) stands behind the class that this file discharges
  have hr : ∀ b, RelS (readBreak b) (readBreak b) := fun b => by unfold readBreak; relS
  relS

end SaphyrModel.C10
