import SaphyrModel.Proofs.Rel.Line
/-! The word loop of `scan_plain_scalar` asks for `bufmaxlen` characters of look-ahead and then copies up
to `bufmaxlen - 1` characters before asking again. The two back-ends have different `bufmaxlen`s, so
their chunk boundaries fall at different places; the result is the same. -/
namespace SaphyrModel.C10
open SaphyrModel SaphyrModel.Sc

/-- what is left of `plainChunks` when `k` iterations of the current chunk remain -/
def chunkRest (f k : Nat) (str : Str) : S Str :=
  plainChunk k str >>= fun x => match x with
    | (str, fin) => if fin then Pure.pure str else plainChunks f str

theorem plainChunks_succ (f : Nat) (str : Str) :
    plainChunks (f + 1) str = bufmaxlen >>= fun cap => lookahead cap >>= fun _ => chunkRest f (cap - 1) str := by
  conv => lhs; unfold plainChunks
  rfl

theorem chunkRest_zero (f : Nat) (str : Str) : chunkRest f 0 str = plainChunks f str := by
  unfold chunkRest plainChunk
  rfl

theorem chunkRest_succ (f k : Nat) (str : Str) :
    chunkRest f (k + 1) str = getS >>= fun s => liftI In.nextIsBlankOrBreakz >>= fun b =>
      if b then Pure.pure str
      else liftI (In.nextCanBePlainScalar (s.flowLevel > 0)) >>= fun c =>
        if !c then Pure.pure str
        else peek >>= fun ch => skipNonBlank >>= fun _ => chunkRest f k (str ++ [ch]) := by
  conv => lhs; unfold chunkRest plainChunk
  simp only [Sc.bind_assoc, M.ite_bind, M.pure_bind]
  rfl

/-- a look-ahead request made by one side alone consumes nothing (`lookahead_adv`): the states stay related -/
theorem RelS.stutterL {α : Type} (X : Nat → S α) (m2 : S α) (h : ∀ cap, RelS (X cap) m2) :
    RelS (Sc.bufmaxlen >>= fun cap => Sc.lookahead cap >>= fun _ => X cap) m2 := by
  refine ⟨fun s t hst => ?_⟩
  show OutS ((Sc.lookahead s.inp.bufmaxlen >>= fun _ => X s.inp.bufmaxlen) s) (m2 t)
  rcases lookahead_adv s.inp.bufmaxlen s with ⟨p, hp⟩ | ⟨_, s', hok, hs⟩
  · rw [bind_panic hp]; trivial
  · rw [bind_ok hok]; exact (h _).out s' t (hst.consumed hs (.refl t))

theorem RelS.stutterR {α : Type} (X : Nat → S α) (m1 : S α) (h : ∀ cap, RelS m1 (X cap)) :
    RelS m1 (Sc.bufmaxlen >>= fun cap => Sc.lookahead cap >>= fun _ => X cap) := by
  refine ⟨fun s t hst => ?_⟩
  show OutS (m1 s) ((Sc.lookahead t.inp.bufmaxlen >>= fun _ => X t.inp.bufmaxlen) t)
  rcases lookahead_adv t.inp.bufmaxlen t with ⟨p, hp⟩ | ⟨_, t', hok, ht⟩
  · rw [bind_panic hp]; exact OutS.panicR _ _
  · rw [bind_ok hok]; exact (h _).out s t' (hst.consumed (.refl s) ht)

/-- Outer induction on the fuel the two sides have left together; inner induction on what is left of the two current
chunks, which run out at different times: a chunk boundary is a step of one side only. -/
theorem chunkRest_rel : ∀ (n f1 f2 : Nat), f1 + f2 = n →
    ∀ (k1 k2 : Nat) (str : Str), RelS (chunkRest f1 k1 str) (chunkRest f2 k2 str) := by
  intro n
  induction n using Nat.strongRecOn with
  | _ n H =>
    intro f1 f2 hn
    refine Nat.rec₂ (fun k2 str => ?_) (fun k1 str => ?_) fun k1 k2 ih str => ?_
    · rw [chunkRest_zero]
      cases f1 with
      | zero => unfold plainChunks; exact RelS.panicL _ _
      | succ f1' =>
        rw [plainChunks_succ]
        exact RelS.stutterL _ _ fun cap => H (f1' + f2) (by omega) f1' f2 rfl (cap - 1) k2 str
    · rw [chunkRest_zero f2]
      cases f2 with
      | zero => unfold plainChunks; exact RelS.panicR _ _
      | succ f2' =>
        rw [plainChunks_succ]
        exact RelS.stutterR _ _ fun cap => H (f1 + f2') (by omega) f1 f2' rfl k1 (cap - 1) str
    · rw [chunkRest_succ, chunkRest_succ]
      clear H  -- `relS` closes calls by hypotheses too: only `ih` is meant
      relS

/-- **`plainChunks` agrees across back-ends whatever their `bufmaxlen`s.** -/
@[relS] theorem plainChunks_rel (f1 f2 : Nat) (str : Str) : RelS (plainChunks f1 str) (plainChunks f2 str) := by
  rw [← chunkRest_zero f1, ← chunkRest_zero f2]
  exact chunkRest_rel (f1 + f2) f1 f2 rfl 0 0 str

end SaphyrModel.C10
