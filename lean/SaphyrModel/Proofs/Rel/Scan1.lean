import SaphyrModel.Proofs.Rel.State
/-! `RelS` for the functions of `Sc/Scan1.lean`. -/
namespace SaphyrModel.C10
open SaphyrModel SaphyrModel.Sc

@[relS] theorem RelS.skipToNextTokenGo : ∀ (f1 f2 : Nat), RelS (skipToNextTokenGo f1) (skipToNextTokenGo f2) := by
  refine Nat.rec₂ (fun _ => .panicL _ _) (fun _ => .panicR _ _) fun _ _ ih => ?_
  unfold Sc.skipToNextTokenGo; relS
@[relS] theorem RelS.skipToNextToken : RelS skipToNextToken skipToNextToken := by unfold Sc.skipToNextToken; relS
@[relS] theorem RelS.skipYamlWhitespaceGo :
    ∀ (f1 f2 : Nat) (x0 : Bool), RelS (skipYamlWhitespaceGo f1 x0) (skipYamlWhitespaceGo f2 x0) := by
  refine Nat.rec₂ (fun _ _ => .panicL _ _) (fun _ _ => .panicR _ _) fun _ _ ih x0 => ?_
  unfold Sc.skipYamlWhitespaceGo; relS
@[relS] theorem RelS.skipYamlWhitespace : RelS skipYamlWhitespace skipYamlWhitespace := by
  unfold Sc.skipYamlWhitespace; relS
@[relS] theorem RelS.fetchStreamStart : RelS fetchStreamStart fetchStreamStart := by unfold Sc.fetchStreamStart; relS
@[relS] theorem RelS.clearPossibleKeys : RelS (Sc.modS Sc.clearPossibleKeys) (Sc.modS Sc.clearPossibleKeys) :=
  RelS.modS _ fun _ _ => rfl
@[relS] theorem RelS.fetchStreamEnd : RelS fetchStreamEnd fetchStreamEnd := by unfold Sc.fetchStreamEnd; relS
@[relS] theorem RelS.scanDirectiveName : RelS scanDirectiveName scanDirectiveName := by
  unfold Sc.scanDirectiveName; relS
@[relS] theorem RelS.scanVersionNumberGo (mark : Marker) :
    ∀ (f1 f2 : Nat) (x0 : Nat) (x1 : Nat),
      RelS (scanVersionNumberGo mark f1 x0 x1) (scanVersionNumberGo mark f2 x0 x1) := by
  refine Nat.rec₂ (fun _ _ _ => .panicL _ _) (fun _ _ _ => .panicR _ _) fun _ _ ih x0 x1 => ?_
  unfold Sc.scanVersionNumberGo; relS
@[relS] theorem RelS.scanVersionDirectiveNumber (mark : Marker) :
    RelS (scanVersionDirectiveNumber mark) (scanVersionDirectiveNumber mark) := by
  unfold Sc.scanVersionDirectiveNumber; relS
@[relS] theorem RelS.scanVersionDirectiveValue (mark : Marker) :
    RelS (scanVersionDirectiveValue mark) (scanVersionDirectiveValue mark) := by
  unfold Sc.scanVersionDirectiveValue; relS
@[relS] theorem RelS.scanTagHandle (directive : Bool) (mark : Marker) :
    RelS (scanTagHandle directive mark) (scanTagHandle directive mark) := by
  unfold Sc.scanTagHandle; relS
@[relS] theorem RelS.scanUriEscapesGo (mark : Marker) :
    ∀ (f1 f2 : Nat) (x0 : Nat) (x1 : Nat), RelS (scanUriEscapesGo mark f1 x0 x1) (scanUriEscapesGo mark f2 x0 x1) := by
  refine Nat.rec₂ (fun _ _ _ => .panicL _ _) (fun _ _ _ => .panicR _ _) fun _ _ ih x0 x1 => ?_
  unfold Sc.scanUriEscapesGo; relS
@[relS] theorem RelS.scanUriEscapes (mark : Marker) : RelS (scanUriEscapes mark) (scanUriEscapes mark) := by
  unfold Sc.scanUriEscapes; relS
@[relS] theorem RelS.scanUriLoop (p : Char → Bool) (mark : Marker) :
    ∀ (f1 f2 : Nat) (x0 : Str) (x1 : Nat), RelS (scanUriLoop p mark f1 x0 x1) (scanUriLoop p mark f2 x0 x1) := by
  refine Nat.rec₂ (fun _ _ _ => .panicL _ _) (fun _ _ _ => .panicR _ _) fun _ _ ih x0 x1 => ?_
  unfold Sc.scanUriLoop; relS
@[relS] theorem RelS.scanTagPrefix (startMark : Marker) :
    RelS (scanTagPrefix startMark) (scanTagPrefix startMark) := by
  unfold Sc.scanTagPrefix; relS
@[relS] theorem RelS.scanTagDirectiveValue (mark : Marker) :
    RelS (scanTagDirectiveValue mark) (scanTagDirectiveValue mark) := by
  unfold Sc.scanTagDirectiveValue; relS
@[relS] theorem RelS.scanDirective : RelS scanDirective scanDirective := by unfold Sc.scanDirective; relS
@[relS] theorem RelS.fetchDirective : RelS fetchDirective fetchDirective := by unfold Sc.fetchDirective; relS
@[relS] theorem RelS.scanVerbatimTag (startMark : Marker) :
    RelS (scanVerbatimTag startMark) (scanVerbatimTag startMark) := by
  unfold Sc.scanVerbatimTag; relS
@[relS] theorem RelS.scanTagShorthandSuffix (head : Str) (mark : Marker) :
    RelS (scanTagShorthandSuffix head mark) (scanTagShorthandSuffix head mark) := by
  unfold Sc.scanTagShorthandSuffix; relS
@[relS] theorem RelS.scanTag : RelS (scanTag) (scanTag) := by unfold Sc.scanTag; relS
@[relS] theorem RelS.fetchTag : RelS fetchTag fetchTag := by unfold Sc.fetchTag; relS
@[relS] theorem RelS.scanAnchorGo : ∀ (f1 f2 : Nat) (x0 : Str), RelS (scanAnchorGo f1 x0) (scanAnchorGo f2 x0) := by
  refine Nat.rec₂ (fun _ _ => .panicL _ _) (fun _ _ => .panicR _ _) fun _ _ ih x0 => ?_
  unfold Sc.scanAnchorGo; relS
@[relS] theorem RelS.scanAnchor (alias : Bool) : RelS (scanAnchor alias) (scanAnchor alias) := by
  unfold Sc.scanAnchor; relS
@[relS] theorem RelS.fetchAnchor (alias : Bool) : RelS (fetchAnchor alias) (fetchAnchor alias) := by
  unfold Sc.fetchAnchor; relS
@[relS] theorem RelS.pushImplState (st : ImplState) :
    RelS (Sc.modS (Sc.pushImplState st)) (Sc.modS (Sc.pushImplState st)) :=
  RelS.modS _ fun _ _ => rfl
@[relS] theorem RelS.fetchFlowCollectionStart (tok : TokenType) :
    RelS (fetchFlowCollectionStart tok) (fetchFlowCollectionStart tok) := by
  unfold Sc.fetchFlowCollectionStart; relS
@[relS] theorem RelS.popExplicitMapping : RelS (Sc.modS Sc.popExplicitMapping) (Sc.modS Sc.popExplicitMapping) :=
  RelS.modS _ fun _ _ => by unfold Sc.popExplicitMapping; dsimp only; split <;> rfl
@[relS] theorem RelS.closeFlowState (tok : TokenType) : RelS (closeFlowState tok) (closeFlowState tok) := by
  unfold Sc.closeFlowState; relS
@[relS] theorem RelS.fetchFlowCollectionEnd (tok : TokenType) :
    RelS (fetchFlowCollectionEnd tok) (fetchFlowCollectionEnd tok) := by
  unfold Sc.fetchFlowCollectionEnd; relS
@[relS] theorem RelS.fetchFlowEntry : RelS fetchFlowEntry fetchFlowEntry := by unfold Sc.fetchFlowEntry; relS
@[relS] theorem RelS.anchorIndentCheck (s : Sc) (j : In) :
    RelS (anchorIndentCheck s) (anchorIndentCheck { s with inp := j }) := by
  unfold Sc.anchorIndentCheck; dsimp only; relS
@[relS] theorem RelS.blockEntryTabCheck (r : SkipTabs) : RelS (blockEntryTabCheck r) (blockEntryTabCheck r) := by
  unfold Sc.blockEntryTabCheck; relS
@[relS] theorem RelS.rollIfBreakOrFlow : RelS rollIfBreakOrFlow rollIfBreakOrFlow := by
  unfold Sc.rollIfBreakOrFlow; relS
@[relS] theorem RelS.fetchBlockEntryTail : RelS fetchBlockEntryTail fetchBlockEntryTail := by
  unfold Sc.fetchBlockEntryTail; relS
@[relS] theorem RelS.fetchBlockEntryBody (s : Sc) (j : In) :
    RelS (fetchBlockEntryBody s) (fetchBlockEntryBody { s with inp := j }) := by
  unfold Sc.fetchBlockEntryBody; dsimp only; relS
@[relS] theorem RelS.fetchBlockEntry : RelS fetchBlockEntry fetchBlockEntry := by unfold Sc.fetchBlockEntry; relS
@[relS] theorem RelS.fetchDocumentIndicator (t : TokenType) :
    RelS (fetchDocumentIndicator t) (fetchDocumentIndicator t) := by
  unfold Sc.fetchDocumentIndicator; relS

end SaphyrModel.C10
