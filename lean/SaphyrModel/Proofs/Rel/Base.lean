import SaphyrModel.Proofs.InputAgree
import SaphyrModel.Proofs.Rel.Attr
import SaphyrModel.Sc.Scan3
/-! Back-end agreement lifted to the scanner (C10): a relational Hoare logic over pairs of scanner
states that differ only in their input (a string input on one side, a buffered input on the other,
both seeing the same characters). `RelS m₁ m₂`: from related states `m₁` and `m₂` return equal
values and related states, or the same error; a panic on either side claims nothing. `RelS` is compositional: a
scanner function agrees across back-ends because it is built by bind, `if`, `match` and `getS` from functions that
agree; the tactic `relS` follows the term, and closes a call of a function already gone through by its lemma, found
under the attribute `relS`. -/
namespace SaphyrModel.C10
open SaphyrModel SaphyrModel.Sc

structure Sim (s t : Sc) : Prop where
  inp : SimIn s.inp t.inp
  rest : t = { s with inp := t.inp }

def OutS {α : Type} : Sc.Res (α × Sc) → Sc.Res (α × Sc) → Prop
  | .ok (a, s'), .ok (b, t') => a = b ∧ Sim s' t'
  | .err e1, .err e2 => e1 = e2
  | .panic _, _ => True
  | _, .panic _ => True
  | _, _ => False

structure RelS {α : Type} (m1 m2 : S α) : Prop where
  out : ∀ s t, Sim s t → OutS (m1 s) (m2 t)

theorem OutS_iff {α : Type} {r1 r2 : Sc.Res (α × Sc)} :
    OutS r1 r2 ↔ Rel (fun x y => x.1 = y.1 ∧ Sim x.2 y.2) r1 r2 := by
  rcases r1 with ⟨a, s⟩ | e | p <;> rcases r2 with ⟨b, t⟩ | e' | q <;> exact Iff.rfl

theorem OutS.panicR {α : Type} (r : Sc.Res (α × Sc)) (p : Site) : OutS r (.panic p) := OutS_iff.2 (Rel.panicR r p)

theorem RelS.val_eq {α : Type} {m1 m2 : S α} (h : RelS m1 m2) {s t s' t' : Sc} {a b : α} (hst : Sim s t)
    (h1 : m1 s = .ok (a, s')) (h2 : m2 t = .ok (b, t')) : a = b ∧ Sim s' t' := by
  have := h.out s t hst
  rwa [h1, h2] at this

theorem RelS.pure {α : Type} (a : α) : RelS (Pure.pure a : S α) (Pure.pure a) := ⟨fun _ _ h => ⟨rfl, h⟩⟩

/-- the values returned on the two sides may mention the two states: equal once the input is projected away -/
theorem RelS.pure_eq {α : Type} {a b : α} (h : a = b) : RelS (Pure.pure a : S α) (Pure.pure b) := h ▸ RelS.pure a

theorem RelS.bind {α β : Type} {m1 m2 : S α} {f1 f2 : α → S β} (h1 : RelS m1 m2) (h2 : ∀ a, RelS (f1 a) (f2 a)) :
    RelS (m1 >>= f1) (m2 >>= f2) := ⟨fun s t hst =>
  OutS_iff.2 <| (OutS_iff.1 (h1.out s t hst)).bind fun a s' b t' ⟨hab, hs⟩ => by
    cases hab; exact OutS_iff.1 ((h2 a).out s' t' hs)⟩

theorem RelS.getS_bind {β : Type} {f1 f2 : Sc → S β} (h : ∀ s j, RelS (f1 s) (f2 { s with inp := j })) :
    RelS (getS >>= f1) (getS >>= f2) := by
  constructor
  intro s t hst
  have := (h s t.inp).out s t hst
  rw [← hst.rest] at this
  simpa [Bind.bind, getS] using this

@[relS] theorem RelS.getMark : RelS getMark getMark := by
  constructor
  intro s t h
  refine ⟨?_, h⟩
  rw [h.rest]

@[relS] theorem RelS.err {α : Type} (m : Marker) (msg : String) : RelS (err m msg : S α) (err m msg) := ⟨fun _ _ _ => rfl⟩
@[relS] theorem RelS.panicL {α : Type} (p : Site) (m : S α) : RelS (panicAt p : S α) m := ⟨fun _ _ _ => by simp [panicAt, OutS]⟩
@[relS] theorem RelS.panicR {α : Type} (p : Site) (m : S α) : RelS m (panicAt p : S α) := ⟨fun _ _ _ => OutS.panicR _ _⟩

theorem RelS.ite {α : Type} {c : Prop} [Decidable c] {a1 a2 b1 b2 : S α} (ha : RelS a1 a2) (hb : RelS b1 b2) :
    RelS (if c then a1 else b1) (if c then a2 else b2) := by
  split <;> assumption

theorem RelS.modS (f : Sc → Sc) (hf : ∀ s j, f { s with inp := j } = { f s with inp := j }) : RelS (modS f) (modS f) := by
  constructor
  intro s t h
  have hi : (f s).inp = s.inp := by have := congrArg Sc.inp (hf s s.inp); exact this
  refine ⟨rfl, ?_⟩
  show Sim (f s) (f t)
  rw [h.rest, hf s t.inp]
  exact ⟨by rw [hi]; exact h.inp, rfl⟩

@[relS] theorem RelS.liftI {α : Type} {m : M In α} (h : Agrees m) : RelS (liftI m) (liftI m) := by
  constructor
  intro s t hst
  have := h s.inp t.inp hst.inp
  simp only [Sc.liftI]
  revert this
  rcases m s.inp with ⟨a, i'⟩ | e | p <;> rcases m t.inp with ⟨b, j'⟩ | e' | q <;> intro h <;>
    first | exact ⟨h.1, h.2.1, by rw [hst.rest]⟩ | exact h

theorem RelS.noInp {α : Type} {m : S α}
    (h : ∀ s j, m { s with inp := j } = match m s with
      | .ok (a, s') => .ok (a, { s' with inp := j }) | .err e => .err e | .panic p => .panic p)
    (hi : ∀ s a s', m s = .ok (a, s') → s'.inp = s.inp) : RelS m m := by
  constructor
  intro s t hst
  rw [hst.rest, h s t.inp]
  cases hm : m s with
  | ok r =>
    obtain ⟨a, s'⟩ := r
    refine ⟨rfl, ⟨?_, rfl⟩⟩
    show SimIn s'.inp t.inp
    rw [hi s a s' hm]; exact hst.inp
  | err e => rfl
  | panic p => simp [OutS]

/-- two runs of a fuelled loop: whichever runs out of fuel first stops at a panic site (nothing is claimed there);
    otherwise each side takes one step -/
theorem Nat.rec₂ {P : Nat → Nat → Prop} (left : ∀ n, P 0 n) (right : ∀ m, P m 0)
    (step : ∀ m n, P m n → P (m + 1) (n + 1)) : ∀ m n, P m n := by
  intro m
  induction m with
  | zero => exact left
  | succ m ih => intro n; cases n with
    | zero => exact right _
    | succ n => exact step m n (ih n)

/-- Follows the term. `with_reducible` keeps every step syntactic: without it `RelS.bind` also applies to a call
    whose *body* is a bind, and `getS >>= ?f` unifies with a state-independent `if`. Order: `getS`, bind, `if`; then
    a leaf: two `pure`s (`RelS.pure_eq`), a call of a function or of an `Input` operation tagged `relS`, or a hypothesis
    (the induction hypothesis of a loop); then a pure state edit that leaves the input alone; `match` last. -/
macro "relS" : tactic => `(tactic| repeat' first
    | (with_reducible refine RelS.getS_bind fun _ _ => ?_); try dsimp only
    | with_reducible refine RelS.bind ?_ fun _ => ?_
    | with_reducible refine RelS.ite ?_ ?_
    | (with_reducible refine RelS.pure_eq ?_); rfl
    | (simp only [relS, *]; done)
    | (with_reducible refine RelS.modS _ fun _ _ => ?_); first | rfl | (dsimp only; split <;> rfl)
    | split)

end SaphyrModel.C10
