import SaphyrModel.Proofs.Spans
import SaphyrModel.Proofs.Run
/-! Lifting `parseStep_spans` to whole runs of the iterator. -/
namespace SaphyrModel.Sp

variable {T : List Token} {se : Option ScanError} {eof : Marker}

theorem iterSpec_spans (fuel : Nat) : ∀ (a : Api) (g : G), IterInv a g → SInv T se eof a.p →
    (∀ v ∈ (iterSpec fuel a).1, SpanOf T v.2) ∧ (∀ e, (iterSpec fuel a).2 = some (.err e) → ErrOf T se eof e) := by
  induction fuel with
  | zero => intro a g _ _; simp [iterSpec]
  | succ n ih =>
    intro a g h hs
    cases hl : a.endEmitted with
    | true => simp [iterSpec, next_done hl]
    | false =>
      have h2 := parseStep_spans hs (h.live hl)
      rcases next_step h hl with ⟨e, hp, hx⟩ | ⟨ev, sp, p', g', hp, hx, _, hI⟩ <;> rw [hp] at h2 <;>
        simp only [iterSpec, hx]
      · exact ⟨by simp, fun e' he => by simp at he; exact he ▸ h2⟩
      · have := ih _ g' hI h2.2
        exact ⟨List.forall_mem_cons.2 ⟨h2.1, this.1⟩, this.2⟩

/-- **The iterator invents no position.** For every token list, scanner error, end mark and
    `keep_tags` setting: every span delivered by plain iteration is the span of one of the tokens or
    the empty span at the end of one of them, and an error — if any — points at the start of one of
    the tokens or is the scanner's own. -/
theorem iterate_spans (toks : List Token) (scanErr : Option ScanError) (eofm : Marker) (keep : Bool) (fuel : Nat) :
    let r := iterate fuel (Api.init (PState.init toks scanErr eofm keep)) []
    (∀ v ∈ r.1, SpanOf toks v.2) ∧ (∀ e, r.2 = some (.err e) → ErrOf toks scanErr eofm e) := by
  intro r
  have hS : SInv toks scanErr eofm (Api.init (PState.init toks scanErr eofm keep)).p :=
    ⟨fun t ht => ht, trivial, by simp [Api.init, PState.init], rfl, rfl⟩
  have := iterSpec_spans (T := toks) (se := scanErr) (eof := eofm) fuel _ _ (IterInv.init toks scanErr eofm keep) hS
  simp only [r]
  rw [iterate_eq]
  simpa using this

end SaphyrModel.Sp
