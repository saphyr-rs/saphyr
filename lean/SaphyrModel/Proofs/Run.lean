import SaphyrModel.Sim
import SaphyrModel.Proofs.Iterate
/-! Lifting the one-step simulation `parseStep_good` to whole runs of the iterator. -/
namespace SaphyrModel

structure IterInv (a : Api) (g : G) : Prop where
  rel : R a.p g
  cur : a.current = none
  live : a.endEmitted = false → a.p.state ≠ .end
  done : a.endEmitted = true → g = ⟨2, []⟩

theorem gStep_phase2 {g g' : G} {ev : Event} (h : gStep g ev = some g') (h2 : g'.phase = 2) :
    ev = .streamEnd := by
  cases ev <;> simp [gStep] at h
  case streamEnd => rfl
  case sequenceEnd | mappingEnd => obtain ⟨_, h⟩ := h; split at h <;> cases h; cases h2
  case alias | scalar | sequenceStart | mappingStart => obtain ⟨_, _, _, rfl⟩ := h; cases h2
  all_goals obtain ⟨_, rfl⟩ := h; cases h2

theorem R_end_phase {p : PState} {g : G} (h : R p g) (he : p.state = .end) : g = ⟨2, []⟩ := by
  unfold R at h; rw [he] at h; simpa [R'] using h

theorem parseStep_cases {p : PState} {g : G} (h : R p g) (hne : p.state ≠ .end) :
    (∃ e, parseStep p = .err e) ∨
    ∃ ev sp p' g', parseStep p = .ok (ev, sp, p') ∧ gStep g ev = some g' ∧ R p' g' ∧
      (p'.state = .end → ev = .streamEnd) := by
  have hg := parseStep_good h hne
  cases hp : parseStep p with
  | err e => exact Or.inl ⟨e, rfl⟩
  | panic x => rw [hp] at hg; exact hg.elim
  | ok o =>
    obtain ⟨ev, sp, p'⟩ := o
    rw [hp] at hg
    obtain ⟨g', hs, hR⟩ := hg
    exact Or.inr ⟨ev, sp, p', g', rfl, hs, hR, fun hend => gStep_phase2 hs (by rw [R_end_phase hR hend])⟩

theorem IterInv.init (toks : List Token) (scanErr : Option ScanError) (eof : Marker) (keep : Bool) :
    IterInv (Api.init (PState.init toks scanErr eof keep)) ⟨0, []⟩ :=
  ⟨by simp [Api.init, PState.init, R, R'], rfl, by simp [Api.init, PState.init], by simp [Api.init]⟩

theorem next_step {a : Api} {g : G} (h : IterInv a g) (hl : a.endEmitted = false) :
    (∃ e, parseStep a.p = .err e ∧ a.next = (some (.err e), a)) ∨
    ∃ ev sp p' g', parseStep a.p = .ok (ev, sp, p') ∧ a.next = (some (.ok (ev, sp)), ⟨p', none, ev == .streamEnd⟩) ∧
      gStep g ev = some g' ∧ IterInv ⟨p', none, ev == .streamEnd⟩ g' := by
  rw [next_eq h.cur hl]
  rcases parseStep_cases h.rel (h.live hl) with ⟨e, hp⟩ | ⟨ev, sp, p', g', hp, hs, hR, hend⟩ <;> rw [hp]
  · exact Or.inl ⟨e, rfl, rfl⟩
  · refine Or.inr ⟨ev, sp, p', g', rfl, rfl, hs, hR, rfl, fun hne he => ?_, fun he => ?_⟩
    · simp [hend he] at hne
    · simp only [beq_iff_eq] at he; subst he
      simp only [gStep] at hs
      split at hs <;> simp at hs
      exact hs.symm

/-- Events delivered by plain iteration are accepted by the grammar automaton; iteration never
    panics (fuel aside); a run that ends without error ends in the accepting configuration. -/
theorem iterSpec_sound (fuel : Nat) (a : Api) (g : G) (h : IterInv a g) :
    ∃ g', gRun g ((iterSpec fuel a).1.map (·.1)) = some g' ∧
      (∀ x, (iterSpec fuel a).2 = some (.panic x) → x = .fuel) ∧
      ((iterSpec fuel a).2 = none → g' = ⟨2, []⟩) := by
  induction fuel generalizing a g with
  | zero => simp [iterSpec, gRun]
  | succ n ih =>
    cases hl : a.endEmitted with
    | true => simp only [iterSpec, next_done hl]; exact ⟨g, by simp [gRun], by simp, fun _ => h.done hl⟩
    | false =>
      rcases next_step h hl with ⟨e, _, hx⟩ | ⟨ev, sp, p', g1, _, hx, hs, hI⟩ <;> simp only [iterSpec, hx]
      · exact ⟨g, by simp [gRun], by simp, by simp⟩
      · obtain ⟨g', hrun, hrest⟩ := ih _ g1 hI
        exact ⟨g', by simp [gRun, hs, hrun], hrest⟩

theorem iterate_sound (fuel : Nat) (a : Api) (g : G) (h : IterInv a g) :
    ∃ g', gRun g ((iterate fuel a []).1.map (·.1)) = some g' ∧
      (∀ x, (iterate fuel a []).2 = some (.panic x) → x = .fuel) ∧
      ((iterate fuel a []).2 = none → g' = ⟨2, []⟩) := by
  rw [iterate_eq]; simpa using iterSpec_sound fuel a g h

end SaphyrModel
