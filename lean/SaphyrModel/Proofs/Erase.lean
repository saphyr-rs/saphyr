import SaphyrModel.Props.C07
/-! Span erasure: the marked loader and the bare loader build the same data (used by Props/C19). Each lemma moves
`erase` inwards through one operation of the loader; `insert_new_node` is taken apart as in C07 (bind the anchor, then
`place`). -/
namespace SaphyrModel

mutual
/-- forget every span of a node -/
def Node.erase : Node → Node
  | .repr _ v s t => .repr Span.dflt v s t
  | .value _ s => .value Span.dflt s
  | .seq _ xs => .seq Span.dflt (eraseList xs)
  | .map _ ps => .map Span.dflt (erasePairs ps)
  | .alias _ k => .alias Span.dflt k
  | .bad _ => .bad Span.dflt
def eraseList : List Node → List Node
  | [] => []
  | x :: xs => x.erase :: eraseList xs
def erasePairs : List (Node × Node) → List (Node × Node)
  | [] => []
  | (k, v) :: ps => (k.erase, v.erase) :: erasePairs ps
end

theorem eraseList_eq_map (xs : List Node) : eraseList xs = xs.map Node.erase := by
  induction xs with
  | nil => rfl
  | cons x r ih => simp [eraseList, ih]
theorem erasePairs_eq_map (ps : List (Node × Node)) : erasePairs ps = ps.map fun p => (p.1.erase, p.2.erase) := by
  induction ps with
  | nil => rfl
  | cons p r ih => obtain ⟨k, v⟩ := p; simp [erasePairs, ih]

mutual
theorem eqv_erase_left (a b : Node) : Node.eqv a.erase b = Node.eqv a b := by
  cases a <;> cases b <;> simp only [Node.erase, Node.eqv]
  · exact eqvList_erase_left _ _
  · exact eqvPairs_erase_left _ _
theorem eqvList_erase_left (xs ys : List Node) : eqvList (eraseList xs) ys = eqvList xs ys := by
  cases xs <;> cases ys <;> simp only [eraseList, eqvList]
  rw [eqv_erase_left, eqvList_erase_left]
theorem eqvPairs_erase_left (ps qs : List (Node × Node)) : eqvPairs (erasePairs ps) qs = eqvPairs ps qs := by
  rcases ps with _ | ⟨⟨k, v⟩, ps⟩ <;> rcases qs with _ | ⟨⟨k', v'⟩, qs⟩ <;> simp only [erasePairs, eqvPairs]
  rw [eqv_erase_left, eqv_erase_left, eqvPairs_erase_left]
end

mutual
theorem eqv_erase_right (a b : Node) : Node.eqv a b.erase = Node.eqv a b := by
  cases a <;> cases b <;> simp only [Node.erase, Node.eqv]
  · exact eqvList_erase_right _ _
  · exact eqvPairs_erase_right _ _
theorem eqvList_erase_right (xs ys : List Node) : eqvList xs (eraseList ys) = eqvList xs ys := by
  cases xs <;> cases ys <;> simp only [eraseList, eqvList]
  rw [eqv_erase_right, eqvList_erase_right]
theorem eqvPairs_erase_right (ps qs : List (Node × Node)) : eqvPairs ps (erasePairs qs) = eqvPairs ps qs := by
  rcases ps with _ | ⟨⟨k, v⟩, ps⟩ <;> rcases qs with _ | ⟨⟨k', v'⟩, qs⟩ <;> simp only [erasePairs, eqvPairs]
  rw [eqv_erase_right, eqv_erase_right, eqvPairs_erase_right]
end

theorem eqv_erase (a b : Node) : Node.eqv a.erase b.erase = Node.eqv a b := by
  rw [eqv_erase_left, eqv_erase_right]

theorem mapInsert_erase (k v : Node) (m : List (Node × Node)) :
    erasePairs (mapInsert k v m) = mapInsert k.erase v.erase (erasePairs m) := by
  simp only [mapInsert, erasePairs_eq_map, List.find?_map, List.filter_map, Function.comp_def, eqv_erase]
  cases m.find? fun p => Node.eqv p.1 k <;> simp

/-- forget every span in a loader state -/
def LSt.erase (s : LSt) : LSt :=
  { docs := eraseList s.docs
    docStack := s.docStack.map fun p => (p.1.erase, p.2)
    keyStack := s.keyStack.map fun o => o.map Node.erase
    anchors := s.anchors.map fun p => (p.1, p.2.erase) }

def LRes.erase : LRes → LRes
  | .ok s => .ok s.erase
  | .panic p => .panic p

theorem anchorsInsert_erase (a : List (Nat × Node)) (id : Nat) (n : Node) :
    (anchorsInsert a id n).map (fun p => (p.1, p.2.erase)) =
      anchorsInsert (a.map fun p => (p.1, p.2.erase)) id n.erase := by
  simp [anchorsInsert, List.filter_map, Function.comp_def]

theorem anchorsGet_erase (a : List (Nat × Node)) (id : Nat) (d : Node) :
    ((anchorsGet a id).getD d).erase = (anchorsGet (a.map fun p => (p.1, p.2.erase)) id).getD d.erase := by
  simp only [anchorsGet, List.find?_map, Function.comp_def]
  cases a.find? _ <;> rfl

theorem bindAnchor_erase (env : C07.Env) (aid : Nat) (n : Node) :
    (C07.bindAnchor env aid n).map (fun p => (p.1, p.2.erase)) =
      C07.bindAnchor (env.map fun p => (p.1, p.2.erase)) aid n.erase := by
  unfold C07.bindAnchor
  split
  · exact anchorsInsert_erase env aid n
  · rfl

theorem erase_idem_scalarNode (e : Bool) (v : Str) (st : ScalarStyle) (t : Option Tag) :
    (scalarNode e v st t).erase = scalarNode e v st t := by
  unfold scalarNode
  split
  · split <;> rfl
  · rfl

theorem withSpan_false (n : Node) (sp : Span) : Node.withSpan false n sp = n := rfl

theorem withSpan_erase (marked : Bool) (n : Node) (sp : Span) : (Node.withSpan marked n sp).erase = n.erase := by
  cases marked <;> cases n <;> rfl

theorem place_erase (s : LSt) (n : Node) (aid : Nat) : (C07.place s n aid).erase = C07.place s.erase n.erase aid := by
  obtain ⟨docs, ds, ks, an⟩ := s
  rcases ds with _ | ⟨⟨top, a⟩, rest⟩
  · rfl
  cases top with
  | seq sp items => simp [C07.place, LSt.erase, LRes.erase, Node.erase, eraseList_eq_map]
  | map sp m =>
    rcases ks with _ | ⟨_ | k, ks⟩
    · rfl
    · rfl
    · simp [C07.place, LSt.erase, LRes.erase, Node.erase, mapInsert_erase]
  | _ => rfl

theorem insertNewNode_erase (s : LSt) (n : Node) (aid : Nat) :
    (insertNewNode s n aid).erase = insertNewNode s.erase n.erase aid := by
  rw [C07.insertNewNode_eq, C07.insertNewNode_eq, place_erase]
  simp only [LSt.erase, bindAnchor_erase]

/-- Erasing after one step of any loader is one step of the bare loader from the erased state: in each case
    both sides make the same edit, and erasing commutes with it. -/
theorem onEvent_erase (c : LCfg) (s : LSt) (e : Event) (sp : Span) :
    (onEvent c s e sp).erase = onEvent ⟨false, c.early⟩ s.erase e sp := by
  obtain ⟨docs, ds, ks, an⟩ := s
  cases e with
  | streamStart | streamEnd | documentStart _ => rfl
  | documentEnd =>
    rcases ds with _ | ⟨⟨n, a⟩, _ | _⟩
    · simp [onEvent, LSt.erase, LRes.erase, eraseList_eq_map, withSpan_erase, withSpan_false, Node.erase]
    · simp [onEvent, LSt.erase, LRes.erase, eraseList_eq_map]
    · rfl
  | sequenceStart aid t | mappingStart aid t =>
    simp [onEvent, LSt.erase, LRes.erase, withSpan_erase, withSpan_false, Node.erase, eraseList, erasePairs]
  | sequenceEnd =>
    rcases ds with _ | ⟨⟨n, a⟩, rest⟩
    · rfl
    · exact insertNewNode_erase ⟨docs, rest, ks, an⟩ n a
  | mappingEnd =>
    rcases ks with _ | ⟨k, ks⟩
    · rfl
    rcases ds with _ | ⟨⟨n, a⟩, rest⟩
    · rfl
    · exact insertNewNode_erase ⟨docs, rest, ks, an⟩ n a
  | scalar v st aid t =>
    simp only [onEvent, insertNewNode_erase, withSpan_erase, withSpan_false, erase_idem_scalarNode]
  | alias id =>
    simp only [onEvent, insertNewNode_erase, withSpan_erase, withSpan_false, anchorsGet_erase]
    rfl

/-- For `c` bare this says that the bare loader never looks at the spans its state holds. -/
theorem foldEvents_erase_cfg (c : LCfg) (s : LSt) (evs : List (Event × Span)) :
    foldEvents ⟨false, c.early⟩ s.erase evs = (foldEvents c s evs).erase := by
  induction evs generalizing s with
  | nil => rfl
  | cons e es ih =>
    obtain ⟨ev, sp⟩ := e
    simp only [foldEvents]
    rw [← onEvent_erase]
    cases onEvent c s ev sp with
    | ok s' => exact ih s'
    | panic p => rfl

/-- **All event lists**: loading bare nodes from the erased state is loading marked nodes, erased -/
theorem foldEvents_erase (early : Bool) (s : LSt) (evs : List (Event × Span)) :
    foldEvents ⟨false, early⟩ s.erase evs = (foldEvents ⟨true, early⟩ s evs).erase :=
  foldEvents_erase_cfg ⟨true, early⟩ s evs

end SaphyrModel
