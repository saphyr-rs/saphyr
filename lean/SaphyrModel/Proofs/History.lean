import SaphyrModel.Proofs.Iterate
/-! Histories of `peek` / `next` calls against plain iteration (used by Props/C17). -/
namespace SaphyrModel

def Api.Ok (a : Api) : Prop := a.endEmitted = true → a.current = none

theorem Api.next_ok {a : Api} (h : a.Ok) : (a.next).2.Ok := by
  unfold Api.next
  split
  · exact h
  · cases hn : nextImpl a with
    | ok r => obtain ⟨v, a'⟩ := r; intro _; exact (nextImpl_current hn).1
    | err e => exact h
    | panic x => exact h

/-- `peek` returns what `next` would return, and a `next` after it behaves as if `peek` had not been called -/
theorem Api.peek_spec {a : Api} (h : a.Ok) :
    (a.peek).1 = (a.next).1 ∧ (a.peek).2.next = a.next ∧ (a.peek).2.Ok := by
  obtain ⟨p, c, e⟩ := a
  cases c with
  | some x =>
    cases e with
    | true => cases h rfl
    | false => simp [Api.peek, Api.next, nextImpl, Api.Ok]
  | none =>
    cases e with
    | true => simp [Api.peek, Api.next, Api.Ok]
    | false =>
      -- both pull; `peek` caches the event and `next` finds it there
      cases hn : nextImpl ⟨p, none, false⟩ with
      | ok r =>
        obtain ⟨v, p', c', e'⟩ := r
        obtain ⟨rfl, rfl⟩ : c' = none ∧ e' = false := nextImpl_current hn
        simp only [Api.peek, Api.next, hn]
        simp [nextImpl, Api.Ok]
      | err e => simp [Api.peek, Api.next, hn, Api.Ok]
      | panic x => simp [Api.peek, Api.next, hn, Api.Ok]

theorem Api.peek_ok {a : Api} (h : a.Ok) : (a.peek).2.Ok := (Api.peek_spec h).2.2

theorem Api.next_after_peek {a : Api} (ha : a.Ok) {v : Ev} {a1 : Api} (h : a.peek = (some (.ok v), a1)) :
    a1.next = a.next ∧ (a.next).1 = some (.ok v) := by
  have hp := Api.peek_spec ha
  rw [h] at hp
  exact ⟨hp.2.1, hp.1.symm⟩

theorem runCalls_acc (cs : List Call) (a : Api) (acc : List (Call × Option (Res Ev))) :
    runCalls cs a acc = acc.reverse ++ runCalls cs a [] := by
  induction cs generalizing a acc with
  | nil => simp [runCalls]
  | cons c cs ih =>
    simp only [runCalls]
    split
    · simp
    · simp
    · rw [ih, ih (acc := [_])]; simp

theorem runCalls_cons {c : Call} {cs : List Call} {a a' : Api} {r : Option (Res Ev)}
    (h : (match c with | .peek => a.peek | .next => a.next) = (r, a')) :
    runCalls (c :: cs) a [] = (c, r) :: match r with
      | some (.err _) | some (.panic _) => []
      | _ => runCalls cs a' [] := by
  cases c <;> dsimp only at h <;> simp only [runCalls, h] <;> rcases r with _ | _ | _ | _ <;>
    simp [runCalls_acc cs _ [_]]

theorem Api.next_none {a a' : Api} (h : a.next = (none, a')) : a' = a := by
  unfold Api.next at h
  split at h
  · exact (Prod.mk.inj h).2.symm
  · cases hn : nextImpl a <;> simp [hn] at h

def nextOks : List (Call × Option (Res Ev)) → List Ev
  | [] => []
  | (.next, some (.ok v)) :: r => v :: nextOks r
  | _ :: r => nextOks r

theorem iterSpec_congr {a b : Api} (h : a.next = b.next) (n : Nat) : iterSpec n a = iterSpec n b := by
  cases n with
  | zero => rfl
  | succ n => simp only [iterSpec, h]

/-- **Every interleaving of `peek` and `next` tells the story of plain iteration.** From any state
    in which the cached event and the end flag exclude each other (in particular a fresh parser),
    the events returned by the `next` calls of a history of at most `fuel` calls are a prefix of
    the events of plain iteration from the same state. -/
theorem nexts_prefix_of_iteration (h : List Call) (a : Api) (ha : a.Ok) (fuel : Nat) (hf : h.length ≤ fuel) :
    nextOks (runCalls h a []) <+: (iterate fuel a []).1 := by
  rw [iterate_eq]; simp only [List.reverse_nil, List.nil_append]
  induction h generalizing a fuel with
  | nil => simp [runCalls, nextOks]
  | cons c cs ih =>
    obtain ⟨n, rfl⟩ : ∃ n, fuel = n + 1 := ⟨fuel - 1, by simp at hf; omega⟩
    have hn : cs.length ≤ n := by simpa using hf
    -- a call after which `next` returns what it would have returned before (every `peek`, and a `next` that
    -- returns nothing) is no step of iteration; the rest of the history then has one step to spare
    have stay : ∀ a', a'.Ok → a'.next = a.next → nextOks (runCalls cs a' []) <+: (iterSpec (n + 1) a).1 :=
      fun a' hok hx => iterSpec_congr hx (n + 1) ▸ ih a' hok (n + 1) (Nat.le_succ_of_le hn)
    cases c with
    | peek =>
      obtain ⟨-, hnext, hok⟩ := Api.peek_spec ha
      rcases hx : a.peek with ⟨_ | _ | _ | _, a'⟩ <;> rw [hx] at hnext hok <;>
        simp only [runCalls_cons (c := .peek) hx, nextOks]
      · exact stay a' hok hnext
      · exact stay a' hok hnext
      · exact List.nil_prefix
      · exact List.nil_prefix
    | next =>
      have hok := Api.next_ok ha
      rcases hx : a.next with ⟨_ | _ | _ | _, a'⟩ <;> rw [hx] at hok <;>
        simp only [runCalls_cons (c := .next) hx, nextOks]
      · exact stay a' hok (by rw [Api.next_none hx])
      · simp only [iterSpec, hx]; exact (List.prefix_cons_inj _).2 (ih a' hok n hn)
      · exact List.nil_prefix
      · exact List.nil_prefix

end SaphyrModel
