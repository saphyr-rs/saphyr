import SaphyrModel.Parser2
/-! The outcome predicate `Res.Sat` for the parser's `Res` monad, and the specification of the
primitives (`peekTok`, `popState`, `resolveTag`) and of the token-skipping helpers (`skipFirst`,
`requireFlowEntry`, `skipDocEnds`, `directivesLoop`, `processDirectives`) stated once, in a form every
invariant of the state machine can use; the second `match` of `parse_node` (`parseNodeContent`) taken apart once
(`parseNodeContent_elim`); what the functions at a document boundary do to the anchor and tag tables; at the end, in
namespace `C06`, two equations for Props/C06 (`skipDocEnds_id`, `processDirectives_none`). -/
namespace SaphyrModel

@[simp] theorem skipTok_state (p : PState) : (skipTok p).state = p.state := rfl
@[simp] theorem skipTok_states (p : PState) : (skipTok p).states = p.states := rfl
@[simp] theorem pushState_state (p : PState) (s) : (pushState p s).state = p.state := rfl
@[simp] theorem pushState_states (p : PState) (s) : (pushState p s).states = s :: p.states := rfl
@[simp] theorem registerAnchor_state (p : PState) (n) : (registerAnchor p n).2.state = p.state := rfl
@[simp] theorem registerAnchor_states (p : PState) (n) : (registerAnchor p n).2.states = p.states := rfl

/-- `m` ends in a value satisfying `Q`, in an error satisfying `E`, or — only if `X` — in a panic -/
def Res.Sat {α : Type} (Q : α → Prop) (E : ScanError → Prop) (X : Prop) : Res α → Prop
  | .ok a => Q a
  | .err e => E e
  | .panic _ => X

namespace Res.Sat
variable {α β : Type} {Q Q' : α → Prop} {E E' : ScanError → Prop} {X X' : Prop} {m : Res α}

theorem bind {R : β → Prop} {f : α → Res β} (hm : m.Sat Q E X) (hf : ∀ a, Q a → (f a).Sat R E X) :
    (m >>= f).Sat R E X := by
  cases m with
  | ok a => exact hf a hm
  | err e => exact hm
  | panic x => exact hm

theorem mono (hm : m.Sat Q E X) (hQ : ∀ a, Q a → Q' a) (hE : ∀ e, E e → E' e) (hX : X → X') : m.Sat Q' E' X' := by
  cases m with
  | ok a => exact hQ a hm
  | err e => exact hE e hm
  | panic x => exact hX hm

theorem bind_ok {R : β → Prop} {f : α → Res β} (hm : m.Sat Q E X)
    (hf : ∀ a, Q a → (f a).Sat R (fun _ => True) True) : (m >>= f).Sat R (fun _ => True) True :=
  (hm.mono (fun _ h => h) (fun _ _ => trivial) (fun _ => trivial)).bind hf

theorem ok {a : α} (hm : m.Sat Q E X) (h : m = .ok a) : Q a := by subst h; exact hm
theorem err {e : ScanError} (hm : m.Sat Q E X) (h : m = .err e) : E e := by subst h; exact hm
theorem noPanic (hm : m.Sat Q E False) (x : PanicSite) : m ≠ .panic x := by intro h; subst h; exact hm
end Res.Sat

/-- the error `peek_token` returns at the end of the tokens: the scanner's latched one, or "unexpected eof" at its
    final mark -/
def PState.latched (p : PState) : ScanError := p.scanErr.getD ⟨p.eofMark, "unexpected eof"⟩

theorem peekTok_sat (p : PState) :
    (peekTok p).Sat (fun t => ∃ r, p.toks = t :: r) (fun e => p.toks = [] ∧ e = p.latched) False := by
  unfold peekTok
  cases p.toks with
  | nil => exact ⟨rfl, rfl⟩
  | cons t r => exact ⟨r, rfl⟩

theorem peekTok_np (p : PState) : ∀ x, peekTok p ≠ .panic x := (peekTok_sat p).noPanic

theorem popState_sat (p : PState) :
    (popState p).Sat (fun q => ∃ k r, p.states = k :: r ∧ q = { p with state := k, states := r })
      (fun _ => False) (p.states = []) := by
  unfold popState
  cases p.states with
  | nil => exact rfl
  | cons k r => exact ⟨k, r, rfl, rfl⟩

theorem resolveTag_sat (p : PState) (sp : Span) (h s : Str) :
    (resolveTag p sp h s).Sat (fun _ => True) (fun e => e.mark = sp.start) False := by
  unfold resolveTag
  repeat' split
  all_goals trivial

theorem resolveTag_ok {p : PState} {span : Span} {h s : Str} : ∀ x, resolveTag p span h s ≠ .panic x :=
  (resolveTag_sat p span h s).noPanic

/-- `q` is `p` after some tokens were consumed and, possibly, the tag table replaced: all that
    `skipFirst`, `requireFlowEntry`, `skipDocEnds` and `processDirectives` do to a state -/
def Adv (p q : PState) : Prop := ∃ k tg, q = { p with toks := p.toks.drop k, tags := tg }

def AdvErr (p : PState) (e : ScanError) : Prop := e = p.latched ∨ ∃ t ∈ p.toks, e.mark = t.span.start

namespace Adv
variable {p q r : PState}
theorem refl (p : PState) : Adv p p := ⟨0, p.tags, rfl⟩
theorem skip (p : PState) : Adv p (skipTok p) := ⟨1, p.tags, by simp [skipTok]⟩
theorem setTags (p : PState) (tg) : Adv p { p with tags := tg } := ⟨0, tg, rfl⟩
theorem trans (h1 : Adv p q) (h2 : Adv q r) : Adv p r := by
  obtain ⟨k1, t1, rfl⟩ := h1; obtain ⟨k2, t2, rfl⟩ := h2
  exact ⟨k1 + k2, t2, by simp [List.drop_drop]⟩
theorem states (h : Adv p q) : q.states = p.states := by obtain ⟨_, _, rfl⟩ := h; rfl
theorem anchors (h : Adv p q) : q.anchors = p.anchors := by obtain ⟨_, _, rfl⟩ := h; rfl
theorem anchorId (h : Adv p q) : q.anchorId = p.anchorId := by obtain ⟨_, _, rfl⟩ := h; rfl
theorem latched (h : Adv p q) : q.latched = p.latched := by obtain ⟨_, _, rfl⟩ := h; rfl
theorem mem (h : Adv p q) {t : Token} (ht : t ∈ q.toks) : t ∈ p.toks := by
  obtain ⟨_, _, rfl⟩ := h; exact List.mem_of_mem_drop ht
theorem length_le (h : Adv p q) : q.toks.length ≤ p.toks.length := by
  obtain ⟨_, _, rfl⟩ := h; simp
theorem err (h : Adv p q) {e : ScanError} (he : AdvErr q e) : AdvErr p e := by
  rcases he with he | ⟨t, ht, he⟩
  · exact Or.inl (he.trans h.latched)
  · exact Or.inr ⟨t, h.mem ht, he⟩
end Adv

theorem AdvErr.tok {p : PState} {t : Token} (ht : t ∈ p.toks) (msg : String) : AdvErr p ⟨t.span.start, msg⟩ :=
  Or.inr ⟨t, ht, rfl⟩

theorem peekTok_adv (p : PState) : (peekTok p).Sat (fun t => t ∈ p.toks) (AdvErr p) False :=
  (peekTok_sat p).mono (fun t ⟨r, h⟩ => by simp [h]) (fun _ h => Or.inl h.2) id

theorem skipFirst_sat (first : Bool) (p : PState) :
    (skipFirst first p).Sat (fun q => if first then p.toks ≠ [] ∧ q = skipTok p else q = p)
      (fun e => p.toks = [] ∧ e = p.latched) False := by
  unfold skipFirst
  cases first with
  | false => exact rfl
  | true =>
    simp only [↓reduceIte]
    exact (peekTok_sat p).bind fun t ⟨r, h⟩ => ⟨by simp [h], rfl⟩

theorem requireFlowEntry_sat (first : Bool) (t : Token) (msg : String) (p : PState) :
    (requireFlowEntry first t msg p).Sat (fun q => if first then q = p else t.ty = .flowEntry ∧ q = skipTok p)
      (fun e => e = ⟨t.span.start, msg⟩) False := by
  unfold requireFlowEntry
  cases first with
  | true => exact rfl
  | false =>
    simp only [Bool.false_eq_true, ↓reduceIte]
    split
    · exact ⟨‹_›, rfl⟩
    · exact rfl

theorem skipFirst_adv (first : Bool) (p : PState) : (skipFirst first p).Sat (Adv p) (AdvErr p) False :=
  (skipFirst_sat first p).mono (fun q h => by
    cases first
    · exact h ▸ Adv.refl p
    · exact h.2 ▸ Adv.skip p) (fun _ h => Or.inl h.2) id

theorem requireFlowEntry_adv (first : Bool) (t : Token) (msg : String) (p : PState) (ht : t ∈ p.toks) :
    (requireFlowEntry first t msg p).Sat (Adv p) (AdvErr p) False :=
  (requireFlowEntry_sat first t msg p).mono (fun q h => by
    cases first
    · exact h.2 ▸ Adv.skip p
    · exact h ▸ Adv.refl p) (fun _ h => h ▸ AdvErr.tok ht msg) id

theorem Adv.after_skip {α : Type} {p : PState} (f : α → PState) {m : Res α}
    (h : m.Sat (fun a => Adv (skipTok p) (f a)) (AdvErr (skipTok p)) False) :
    m.Sat (fun a => Adv p (f a)) (AdvErr p) False :=
  h.mono (fun _ h => (Adv.skip p).trans h) (fun _ h => (Adv.skip p).err h) id

theorem skipDocEnds_adv (n : Nat) (p : PState) : (skipDocEnds n p).Sat (Adv p) (AdvErr p) False := by
  induction n generalizing p with
  | zero => exact Adv.refl p
  | succ n ih =>
    unfold skipDocEnds
    refine (peekTok_adv p).bind fun t _ => ?_
    split
    · exact Adv.after_skip id (ih _)
    · exact Adv.refl p

theorem directivesLoop_adv (n : Nat) (p : PState) (v : Bool) (acc : List (Str × Str)) :
    (directivesLoop n p v acc).Sat (fun r => Adv p r.1) (AdvErr p) False := by
  induction n generalizing p v acc with
  | zero => exact Adv.refl p
  | succ n ih =>
    unfold directivesLoop
    refine (peekTok_adv p).bind fun t ht => ?_
    split
    · split
      · exact AdvErr.tok ht _
      · exact Adv.after_skip Prod.fst (ih _ _ _)
    · split
      · exact Adv.after_skip Prod.fst (ih _ _ _)
      · split
        · exact AdvErr.tok ht _
        · exact Adv.after_skip Prod.fst (ih _ _ _)
    · exact Adv.refl p

theorem processDirectives_adv (n : Nat) (p : PState) (v : Bool) :
    (processDirectives n p v).Sat (Adv p) (AdvErr p) False := by
  unfold processDirectives
  exact (directivesLoop_adv n p v []).bind fun r hr => hr.trans (Adv.setTags _ _)

/-- **The second `match` of `parse_node`, once.** Its outcome is an error raised while advancing, the start of a
    collection (the state is set to the one that reads its first entry), or a scalar after a pop: the scalar token,
    consumed, or the empty scalar that a node with properties stands for, nothing consumed. -/
theorem parseNodeContent_elim {P : Res Out → Prop} (p : PState) (b i : Bool) (aid : Nat) (tag : Option Tag)
    (herr : ∀ e, AdvErr p e → P (.err e))
    (hseq : ∀ t K, t ∈ p.toks →
      K = .indentlessSequenceEntry ∨ K = .flowSequenceFirstEntry ∨ K = .blockSequenceFirstEntry →
      P (.ok (.sequenceStart aid tag, t.span, { p with state := K })))
    (hmap : ∀ t K, t ∈ p.toks → K = .flowMappingFirstKey ∨ K = .blockMappingFirstKey →
      P (.ok (.mappingStart aid tag, t.span, { p with state := K })))
    (hscalar : ∀ t v st f, t ∈ p.toks → f = id ∨ f = skipTok →
      P (popState p >>= fun q => .ok (.scalar v st aid tag, t.span, f q))) :
    P (parseNodeContent p b i aid tag) := by
  unfold parseNodeContent
  have hpk := peekTok_adv p
  cases hp : peekTok p with
  | err e => exact herr e (hpk.err hp)
  | panic x => exact (hpk.noPanic x hp).elim
  | ok t =>
    have ht := hpk.ok hp
    -- the model writes the bind after `popState` out as a `match`
    have hpop : ∀ v st f, f = id ∨ f = skipTok → P (match popState p with
        | .ok q => .ok (.scalar v st aid tag, t.span, f q) | .err e => .err e | .panic x => .panic x) := by
      intro v st f hf
      have := hscalar t v st f ht hf
      cases hq : popState p <;> rw [hq] at this <;> exact this
    have hempty : ∀ msg, P (if tag.isSome || aid > 0 then (match popState p with
        | .ok q => .ok (emptyScalarWithAnchor aid tag, t.span, q) | .err e => .err e | .panic x => .panic x)
        else .err ⟨t.span.start, msg⟩) := by
      intro msg
      split
      · exact hpop [] .plain id (Or.inl rfl)
      · exact herr _ (AdvErr.tok ht msg)
    simp only
    split
    · split
      · exact hseq t _ ht (Or.inl rfl)
      · exact hempty _
    · exact hpop _ _ skipTok (Or.inr rfl)
    · exact hseq t _ ht (Or.inr (Or.inl rfl))
    · exact hmap t _ ht (Or.inl rfl)
    · split
      · exact hseq t _ ht (Or.inr (Or.inr rfl))
      · exact hempty _
    · split
      · exact hmap t _ ht (Or.inr rfl)
      · exact hempty _
    · exact hempty _

theorem streamStart_anchors (p : PState) :
    (streamStart p).Sat (fun o => o.2.2.anchors = p.anchors) (fun _ => True) True := by
  unfold streamStart
  refine (peekTok_adv p).bind_ok fun t _ => ?_
  split
  · exact rfl
  · trivial

theorem explicitDocumentStart_anchors (p : PState) :
    (explicitDocumentStart p).Sat (fun o => o.2.2.anchors = p.anchors) (fun _ => True) True := by
  unfold explicitDocumentStart
  refine (processDirectives_adv _ p false).bind_ok fun q hq => ?_
  refine (peekTok_adv q).bind_ok fun t _ => ?_
  split
  · exact hq.anchors
  · trivial

theorem documentStart_anchors (p : PState) (implicit : Bool) :
    (documentStart p implicit).Sat (fun o => o.2.2.anchors = p.anchors) (fun _ => True) True := by
  unfold documentStart
  refine (skipDocEnds_adv _ p).bind_ok fun q hq => ?_
  refine (peekTok_adv q).bind_ok fun t _ => ?_
  have hex := hq.anchors ▸ explicitDocumentStart_anchors q
  split
  · exact hq.anchors
  · exact hex
  · exact hex
  · exact hex
  · split
    · exact (processDirectives_adv _ q false).bind_ok fun q2 hq2 => hq2.anchors.trans hq.anchors
    · exact hex

theorem documentEnd_clears (p : PState) :
    (documentEnd p).Sat (fun o => o.2.2.anchors = [] ∧ (p.keepTags = false → o.2.2.tags = []) ∧ o.1 = .documentEnd)
      (fun _ => True) True := by
  unfold documentEnd
  refine (peekTok_adv p).bind_ok fun t _ => ?_
  split
  · exact ⟨rfl, fun hk => by simp [clearAnchors, clearTags, skipTok, hk], rfl⟩
  · refine (peekTok_adv _).bind_ok fun t2 _ => ?_
    split
    · trivial
    · trivial
    · exact ⟨rfl, fun hk => by simp [clearAnchors, clearTags, hk], rfl⟩

end SaphyrModel

namespace SaphyrModel.C06

-- `simp only` takes the default arm of the `match` on `t.ty` by itself: the hypotheses `t.ty ≠ …` in the context
-- discharge the side conditions of the matcher's equation for that arm.

theorem skipDocEnds_id (p : PState) (t : Token) (rest : List Token) (n : Nat)
    (hp : p.toks = t :: rest) (h1 : t.ty ≠ .documentEnd) : skipDocEnds (n + 1) p = .ok p := by
  unfold skipDocEnds
  simp only [peekTok, hp, Bind.bind]

theorem processDirectives_none (p : PState) (t : Token) (rest : List Token) (n : Nat)
    (hp : p.toks = t :: rest)
    (h4 : ∀ a b, t.ty ≠ .versionDirective a b) (h5 : ∀ a b, t.ty ≠ .tagDirective a b) :
    processDirectives (n + 1) p false = .ok { p with tags := tagsExtend p.tags [] } := by
  unfold processDirectives directivesLoop
  simp only [peekTok, hp, Bind.bind]

end SaphyrModel.C06
