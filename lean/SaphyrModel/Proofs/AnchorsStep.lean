import SaphyrModel.Proofs.Iterate
import SaphyrModel.Proofs.Anchors
/-! Every state function of the parser obeys the anchor-id discipline, and so does every run of the iterator
(`aRun`, `iterate_anchors`). -/
namespace SaphyrModel

def Post (p0 : PState) (r : Res Out) : Prop := AInv p0 → AOk p0.anchorId r

/-- `p'` may be the state of `hk` with tokens skipped, the state set or a state pushed (see `AOk`) -/
theorem Post.leaf {p0 p' : PState} {ev : Event} {sp : Span} (hk : SameAnchors p0 p') (hn : NoAid ev = true) :
    Post p0 (.ok (ev, sp, p')) :=
  fun hp => ⟨hk.ainv hp, hk.1 ▸ NoAid.spec hn _⟩

theorem Post.pop {p0 p1 : PState} {ev : Event} {sp : Span} {f : PState → PState} (hf : f = id ∨ f = skipTok)
    (hk : SameAnchors p0 p1) (hn : NoAid ev = true) : Post p0 (popState p1 >>= fun q => .ok (ev, sp, f q)) :=
  fun hp => AOk.pop hf (Post.leaf (sp := sp) hk hn hp)

theorem Post.node {p0 q : PState} {b i : Bool} (hk : SameAnchors p0 q) : Post p0 (parseNode q b i) :=
  fun hp => hk.1 ▸ parseNode_anch q b i (hk.ainv hp)

theorem Post.bind {α : Type} {p0 : PState} {C : α → Prop} {E : ScanError → Prop} {X : Prop} {m : Res α}
    {f : α → Res Out} (hm : m.Sat C E X) (hf : ∀ a, C a → Post p0 (f a)) : Post p0 (m >>= f) := by
  cases m with
  | ok a => exact hf a hm
  | err e => exact fun _ => trivial
  | panic x => exact fun _ => trivial

theorem Post.adv {p0 p1 : PState} {E : ScanError → Prop} {X : Prop} {m : Res PState} {f : PState → Res Out}
    (hk : SameAnchors p0 p1) (hm : m.Sat (Adv p1) E X) (hf : ∀ q, SameAnchors p0 q → Post p0 (f q)) : Post p0 (m >>= f) :=
  Post.bind hm fun q hq => hf q (hk.trans hq.keeps)

theorem blockMappingKey_anch (p : PState) (first : Bool) : Post p (blockMappingKey p first) := by
  unfold blockMappingKey
  refine Post.adv (SameAnchors.refl p) (skipFirst_adv first p) fun q hq => ?_
  refine Post.bind (peekTok_adv _) fun t _ => ?_
  split
  · refine Post.bind (peekTok_adv _) fun t2 _ => ?_
    split
    iterate 3 exact Post.leaf hq rfl
    exact Post.node hq
  · exact Post.leaf hq rfl
  · exact Post.pop (.inr rfl) hq rfl
  · exact fun _ => trivial

theorem blockMappingValue_anch (p : PState) : Post p (blockMappingValue p) := by
  unfold blockMappingValue
  refine Post.bind (peekTok_adv _) fun t _ => ?_
  split
  · refine Post.bind (peekTok_adv _) fun t2 _ => ?_
    split
    iterate 3 exact Post.leaf (SameAnchors.refl p) rfl
    exact Post.node (SameAnchors.refl p)
  · exact Post.leaf (SameAnchors.refl p) rfl

theorem flowMappingKey_anch (p : PState) (first : Bool) : Post p (flowMappingKey p first) := by
  unfold flowMappingKey
  refine Post.adv (SameAnchors.refl p) (skipFirst_adv first p) fun q hq => ?_
  refine Post.bind (peekTok_adv _) fun t ht => ?_
  split
  · exact Post.pop (.inr rfl) hq rfl
  · refine Post.adv hq (requireFlowEntry_adv first t _ q ht) fun q2 hq2 => ?_
    refine Post.bind (peekTok_adv _) fun t2 _ => ?_
    split
    · refine Post.bind (peekTok_adv _) fun t3 _ => ?_
      split
      iterate 3 exact Post.leaf hq2 rfl
      exact Post.node hq2
    · exact Post.leaf hq2 rfl
    · exact Post.pop (.inr rfl) hq2 rfl
    · exact Post.node hq2

theorem flowMappingValue_anch (p : PState) (empty : Bool) : Post p (flowMappingValue p empty) := by
  unfold flowMappingValue
  refine Post.bind (peekTok_adv _) fun t _ => ?_
  split
  · exact Post.leaf (SameAnchors.refl p) rfl
  · split
    · refine Post.bind (peekTok_adv _) fun t2 _ => ?_
      split
      iterate 2 exact Post.leaf (SameAnchors.refl p) rfl
      exact Post.node (SameAnchors.refl p)
    · exact Post.leaf (SameAnchors.refl p) rfl

theorem flowSequenceEntry_anch (p : PState) (first : Bool) : Post p (flowSequenceEntry p first) := by
  unfold flowSequenceEntry
  refine Post.adv (SameAnchors.refl p) (skipFirst_adv first p) fun q hq => ?_
  refine Post.bind (peekTok_adv _) fun t ht => ?_
  split
  · exact Post.pop (.inr rfl) hq rfl
  · refine Post.adv hq (requireFlowEntry_adv first t _ q ht) fun q2 hq2 => ?_
    refine Post.bind (peekTok_adv _) fun t2 _ => ?_
    split
    · exact Post.pop (.inr rfl) hq2 rfl
    · exact Post.leaf hq2 rfl
    · exact Post.node hq2

theorem indentlessSequenceEntry_anch (p : PState) : Post p (indentlessSequenceEntry p) := by
  unfold indentlessSequenceEntry
  refine Post.bind (peekTok_adv _) fun t _ => ?_
  split
  · refine Post.bind (peekTok_adv _) fun t2 _ => ?_
    split
    iterate 4 exact Post.leaf (SameAnchors.refl p) rfl
    exact Post.node (SameAnchors.refl p)
  · exact Post.pop (.inl rfl) (SameAnchors.refl p) rfl

theorem blockSequenceEntry_anch (p : PState) (first : Bool) : Post p (blockSequenceEntry p first) := by
  unfold blockSequenceEntry
  refine Post.adv (SameAnchors.refl p) (skipFirst_adv first p) fun q hq => ?_
  refine Post.bind (peekTok_adv _) fun t _ => ?_
  split
  · exact Post.pop (.inr rfl) hq rfl
  · refine Post.bind (peekTok_adv _) fun t2 _ => ?_
    split
    iterate 2 exact Post.leaf hq rfl
    exact Post.node hq
  · exact fun _ => trivial

theorem flowSequenceEntryMappingKey_anch (p : PState) : Post p (flowSequenceEntryMappingKey p) := by
  unfold flowSequenceEntryMappingKey
  refine Post.bind (peekTok_adv _) fun t _ => ?_
  split
  iterate 3 exact Post.leaf (SameAnchors.refl p) rfl
  exact Post.node (SameAnchors.refl p)

theorem flowSequenceEntryMappingValue_anch (p : PState) : Post p (flowSequenceEntryMappingValue p) := by
  unfold flowSequenceEntryMappingValue
  refine Post.bind (peekTok_adv _) fun t _ => ?_
  split
  · refine Post.bind (peekTok_adv _) fun t2 _ => ?_
    split
    iterate 2 exact Post.leaf (SameAnchors.refl p) rfl
    exact Post.node (SameAnchors.refl p)
  · exact Post.leaf (SameAnchors.refl p) rfl

theorem streamStart_anch (p : PState) : Post p (streamStart p) := by
  unfold streamStart
  refine Post.bind (peekTok_adv _) fun t _ => ?_
  split
  · exact Post.leaf (SameAnchors.refl p) rfl
  · exact fun _ => trivial

theorem documentContent_anch (p : PState) : Post p (documentContent p) := by
  unfold documentContent
  refine Post.bind (peekTok_adv _) fun t _ => ?_
  split
  iterate 5 exact Post.pop (.inl rfl) (SameAnchors.refl p) rfl
  exact Post.node (SameAnchors.refl p)

theorem explicitDocumentStart_anch (p0 p : PState) (hk : SameAnchors p0 p) : Post p0 (explicitDocumentStart p) := by
  unfold explicitDocumentStart
  refine Post.adv hk (processDirectives_adv _ p false) fun q hq => ?_
  refine Post.bind (peekTok_adv _) fun t _ => ?_
  split
  · exact Post.leaf hq rfl
  · exact fun _ => trivial

theorem documentStart_anch (p : PState) (implicit : Bool) : Post p (documentStart p implicit) := by
  unfold documentStart
  refine Post.adv (SameAnchors.refl p) (skipDocEnds_adv _ p) fun q hq => ?_
  refine Post.bind (peekTok_adv _) fun t _ => ?_
  split
  · exact Post.leaf hq rfl
  · exact explicitDocumentStart_anch p q hq
  · exact explicitDocumentStart_anch p q hq
  · exact explicitDocumentStart_anch p q hq
  · split
    · refine Post.adv hq (processDirectives_adv _ q false) fun q2 hq2 => ?_
      exact Post.leaf hq2 rfl
    · exact explicitDocumentStart_anch p q hq

theorem documentEnd_anch (p : PState) : Post p (documentEnd p) := by
  unfold documentEnd
  refine Post.bind (peekTok_adv _) fun t _ => ?_
  have hc : ∀ q : PState, SameAnchors q (clearAnchors (clearTags q)) := fun q =>
    ⟨by unfold clearTags; split <;> rfl, Or.inr rfl⟩
  split
  · exact Post.leaf (hc (skipTok p)) rfl
  · refine Post.bind (peekTok_adv _) fun t2 _ => ?_
    split
    · exact fun _ => trivial
    · exact fun _ => trivial
    · exact Post.leaf (hc p) rfl

/-- **Every step of the parser obeys the anchor-id discipline.** -/
theorem parseStep_anch (p : PState) : Post p (parseStep p) := by
  unfold parseStep
  split
  · exact Post.leaf (SameAnchors.refl p) rfl
  · exact streamStart_anch p
  · exact documentStart_anch p true
  · exact documentStart_anch p false
  · exact documentContent_anch p
  · exact documentEnd_anch p
  · exact Post.node (SameAnchors.refl p)
  · exact blockMappingKey_anch p true
  · exact blockMappingKey_anch p false
  · exact blockMappingValue_anch p
  · exact blockSequenceEntry_anch p true
  · exact blockSequenceEntry_anch p false
  · exact flowSequenceEntry_anch p true
  · exact flowSequenceEntry_anch p false
  · exact flowMappingKey_anch p true
  · exact flowMappingKey_anch p false
  · exact flowMappingValue_anch p false
  · exact indentlessSequenceEntry_anch p
  · exact flowSequenceEntryMappingKey_anch p
  · exact flowSequenceEntryMappingValue_anch p
  · exact Post.leaf (SameAnchors.refl p) rfl
  · exact flowMappingValue_anch p true

/-- specification of the anchor-id discipline over a whole event stream: `n` is the next id to be
    handed out; an anchored node must take exactly `n`, an alias must refer to an id below `n` -/
def aStep (n : Nat) (ev : Event) : Option Nat :=
  match ev with
  | .alias id => if 1 ≤ id ∧ id < n then some n else none
  | .scalar _ _ a _ | .sequenceStart a _ | .mappingStart a _ =>
    if a = 0 then some n else if a = n then some (n + 1) else none
  | _ => some n

def aRun (n : Nat) : List Event → Option Nat
  | [] => some n
  | e :: es => (aStep n e).bind (aRun · es)

theorem EvSpec.aStep {n n' : Nat} {ev : Event} (h : EvSpec n ev n') (hn : 1 ≤ n) : aStep n ev = some n' := by
  cases ev <;> simp_all [EvSpec, SaphyrModel.aStep]
  all_goals (first | omega | (rcases h with ⟨h1, h2⟩ | ⟨h1, h2⟩ <;> simp_all <;> omega))

theorem iterSpec_anchors (fuel : Nat) (a : Api) (hc : a.current = none) (hp : AInv a.p) :
    ∃ n', aRun a.p.anchorId ((iterSpec fuel a).1.map (·.1)) = some n' := by
  induction fuel generalizing a with
  | zero => exact ⟨a.p.anchorId, by simp [iterSpec, aRun]⟩
  | succ k ih =>
    cases hl : a.endEmitted with
    | true => exact ⟨a.p.anchorId, by simp [iterSpec, next_done hl, aRun]⟩
    | false =>
      simp only [iterSpec, next_eq hc hl]
      cases hs : parseStep a.p with
      | err e => exact ⟨a.p.anchorId, by simp [aRun]⟩
      | panic x => exact ⟨a.p.anchorId, by simp [aRun]⟩
      | ok o =>
        obtain ⟨ev, sp, p'⟩ := o
        have hstep : AOk a.p.anchorId (.ok (ev, sp, p')) := hs ▸ parseStep_anch a.p hp
        obtain ⟨n', hn'⟩ := ih ⟨p', none, ev == .streamEnd⟩ rfl hstep.1
        exact ⟨n', by simpa [aRun, hstep.2.aStep hp.1] using hn'⟩

theorem iterate_anchors (fuel : Nat) (a : Api) (hc : a.current = none) (hp : AInv a.p) :
    ∃ n', aRun a.p.anchorId ((iterate fuel a []).1.map (·.1)) = some n' := by
  rw [iterate_eq]; simpa using iterSpec_anchors fuel a hc hp

end SaphyrModel
