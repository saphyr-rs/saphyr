import SaphyrModel.Proofs.StrEval
import SaphyrModel.Proofs.Words
/-! C04 / C12, plain scalars on one line in block context: words of ordinary characters separated by blanks are
returned as they stand, and the token's span covers exactly the text — for every such line (string input). -/
namespace SaphyrModel.C04P
open SaphyrModel.Sc SaphyrModel.C14L SaphyrModel.C05T

/-- `At`, plus what the plain-scalar scanner reads besides: block context, the leading-white-space flag, the
    chunk size (`bufmaxlen`) -/
structure AtP (u : Sc) (it : Str) (L C : Nat) (I : Int) (N : Nat) (lw : Bool) (K : Nat) : Prop where
  at_ : At u it L C I N
  flow : u.flowLevel = 0
  lws : u.leadingWhitespace = lw
  cap : u.inp.cap = K

section
variable {u : Sc} {it : Str} {L C : Nat} {I : Int} {N : Nat} {lw : Bool} {K : Nat}

theorem AtP.fwd (w : Str) (lw' : Bool) (h : AtP u (w ++ it) L C I N lw K) : AtP (fwd u w.length lw') it L (C + w.length) I N lw' K :=
  ⟨h.at_.fwd w lw', h.flow, rfl, h.cap⟩
theorem AtP.req (n : Nat) (h : AtP u it L C I N lw K) : AtP (req u n) it L C I N lw K := ⟨h.at_.req n, h.flow, h.lws, h.cap⟩
theorem AtP.setLw (b : Bool) (h : AtP u it L C I N lw K) : AtP { u with leadingWhitespace := b } it L C I N b K :=
  ⟨⟨h.at_.kind, h.at_.iter, h.at_.line, h.at_.col, h.at_.indent, h.at_.off⟩, h.flow, rfl, h.cap⟩
theorem AtP.nlB (b : Brk) (h : AtP u (b.txt ++ it) L C I N lw K) : AtP (nlB u b it) it (L + 1) 0 I N true K :=
  ⟨h.at_.nlB b, h.flow, rfl, h.cap⟩

theorem evp_getS {u : Sc} {it : Str} {L C : Nat} {I : Int} {N : Nat} {lw : Bool} {K : Nat} (h : AtP u it L C I N lw K) :
    Ev (getS : S Sc) u u (fun u' => AtP u' it L C I N lw K) := Ev.ok rfl h

theorem evp_lookahead (n : Nat) (h : AtP u it L C I N lw K) : Ev (Sc.lookahead n) u () (fun u' => AtP u' it L C I N lw K) :=
  Ev.ok (lookahead_eq h.at_.kind n) (h.req n)
theorem AtP.bufmaxlen (h : AtP u it L C I N lw K) : Sc.bufmaxlen u = .ok (K, u) := h.cap ▸ rfl
theorem evp_skipNonBlank {c : Char} (h : AtP u (c :: it) L C I N lw K) :
    Ev skipNonBlank u () (fun u' => AtP u' it L (C + 1) I N false K) := Ev.ok (skipNonBlank_eq h.at_.kind) (h.fwd [c] false)
theorem evp_skipBlank {c : Char} (h : AtP u (c :: it) L C I N lw K) :
    Ev skipBlank u () (fun u' => AtP u' it L (C + 1) I N lw K) := Ev.ok (skipBlank_eq h.at_.kind) (h.lws ▸ h.fwd [c] _)
end

/-- an ordinary character of a plain scalar: not a blank, break or NUL, and none of `:` and `#` (which are
    legal inside plain scalars only in some positions) -/
def PlainCh (c : Char) : Prop := isBlankOrBreakz c = false ∧ c ≠ ':' ∧ c ≠ '#'

theorem AtP.canBePlain {u : Sc} {c : Char} {it : Str} {L C : Nat} {I : Int} {N : Nat} {lw : Bool} {K : Nat}
    (hc : PlainCh c) (h : AtP u (c :: it) L C I N lw K) : Sc.liftI (In.nextCanBePlainScalar false) u = .ok (true, u) := by
  have hcc : (c == ':') = false := by simpa using hc.2.1
  simp only [Sc.liftI, In.nextCanBePlainScalar, h.at_.kind, h.at_.iter]
  cases it with
  | nil => simp [hcc]
  | cons nc r => simp [hcc]

/-- **One chunk** of the word loop: up to `k` ordinary characters are appended; the chunk reports the end of
    the word when it meets the blank or break that follows within its `k` rounds -/
theorem evp_chunk : ∀ (k : Nat) (w : Str) (str : Str) (tl : Str) (u : Sc) (L C : Nat) (I : Int) (N : Nat) (K : Nat),
    (∀ c ∈ w, PlainCh c) → ans isBlankOrBreakz true tl = true →
    AtP u (w ++ tl) L C I N false K →
    Ev (plainChunk k str) u (str ++ w.take k, decide (w.length < k))
      (fun u' => AtP u' (w.drop k ++ tl) L (C + min k w.length) I N false K) := by
  intro k
  induction k with
  | zero =>
    intro w str tl u L C I N K _ _ h
    unfold plainChunk
    simp only [List.take_zero, List.append_nil, List.drop_zero, Nat.zero_min, Nat.add_zero, Nat.not_lt_zero, decide_false]
    exact Ev.pure _ u h
  | succ k ih =>
    intro w str tl u L C I N K hw hx h
    unfold plainChunk
    cases w with
    | nil =>
      simp only [List.nil_append] at h
      -- a blank, a break or the end of the input: the word ends here
      simp only [↓Ev.getS_step, In.nextIsBlankOrBreakz, ↓Ev.step (h.at_.nextIs _ _), hx, ↓reduceIte, List.take_nil, List.append_nil,
        List.drop_nil, List.nil_append, List.length_nil, Nat.min_zero, Nat.add_zero, Nat.zero_lt_succ, decide_true]
      exact Ev.pure _ u h
    | cons c w =>
      have hc : PlainCh c := hw c (by simp)
      simp only [List.cons_append] at h
      -- an ordinary character in block context: it is appended
      simp only [↓Ev.getS_step, In.nextIsBlankOrBreakz, ↓Ev.step (h.at_.nextIs _ _), ans, hc.1, h.flow, Nat.lt_irrefl, gt_iff_lt,
        decide_false, ↓Ev.step (h.canBePlain hc), ↓Ev.step h.at_.peek, List.headD_cons, Bool.not_true, Bool.false_eq_true, ↓reduceIte]
      apply Ev.bind (evp_skipNonBlank h)
      intro u4 h4
      have := ih w (str ++ [c]) tl u4 L (C + 1) I N K (fun d hd => hw d (by simp [hd])) hx h4
      simp only [List.take_succ_cons, List.drop_succ_cons, List.length_cons]
      have e1 : C + min (k + 1) (w.length + 1) = C + 1 + min k w.length := by omega
      have e2 : decide (w.length + 1 < k + 1) = decide (w.length < k) := by simp
      rw [e1, e2]
      simpa [List.append_assoc] using this

/-- **A whole word**, however many chunks it takes (recursion on the length of the word) -/
theorem evp_word (K : Nat) (hK : 2 ≤ K) (w : Str) (fuel : Nat) (str : Str) (tl : Str) (u : Sc) (L C : Nat) (I : Int) (N : Nat)
    (hw : ∀ c ∈ w, PlainCh c) (hx : ans isBlankOrBreakz true tl = true) (h : AtP u (w ++ tl) L C I N false K) :
    Ev (plainChunks fuel str) u (str ++ w) (fun u' => AtP u' (tl) L (C + w.length) I N false K) := by
  cases fuel with
  | zero => exact Or.inl ⟨_, rfl⟩
  | succ f =>
    unfold plainChunks
    rw [Ev.step h.bufmaxlen]
    apply Ev.bind (evp_lookahead K h)
    intro u2 h2
    apply Ev.bind (evp_chunk (K - 1) w str tl u2 L C I N K hw hx h2)
    intro u3 h3
    by_cases hlt : w.length < K - 1
    · simp only [hlt, decide_true, ↓reduceIte]
      rw [List.take_of_length_le (by omega)]
      rw [List.drop_of_length_le (by omega), Nat.min_eq_right (by omega)] at h3
      exact Ev.pure _ u3 h3
    · simp only [hlt, decide_false, Bool.false_eq_true, ↓reduceIte]
      rw [Nat.min_eq_left (by omega)] at h3
      have := evp_word K hK (w.drop (K - 1)) f (str ++ w.take (K - 1)) tl u3 L (C + (K - 1)) I N
        (fun c hc => hw c (List.mem_of_mem_drop hc)) hx h3
      rw [List.append_assoc, List.take_append_drop, List.length_drop,
        show C + (K - 1) + (w.length - (K - 1)) = C + w.length by omega] at this
      exact this
termination_by w.length
decreasing_by rw [List.length_drop]; omega

theorem evp_chunks (K : Nat) (hK : 2 ≤ K) : ∀ (n : Nat) (w : Str), w.length ≤ n → ∀ (fuel : Nat) (str : Str) (tl : Str) (u : Sc) (L C : Nat) (I : Int) (N : Nat),
    (∀ c ∈ w, PlainCh c) → ans isBlankOrBreakz true tl = true →
    AtP u (w ++ tl) L C I N false K →
    Ev (plainChunks fuel str) u (str ++ w) (fun u' => AtP u' (tl) L (C + w.length) I N false K) :=
  fun _ w _ => evp_word K hK w

/-- **A run of blanks** after a word (not at the start of a line) is collected as pending white space -/
theorem evp_blanks (indent : Int) (sm : Marker) : ∀ (sp : Str) (fuel : Nat) (a : PlAcc) (y : Char) (rest : Str) (u : Sc) (L C : Nat) (I : Int) (N K : Nat),
    (∀ c ∈ sp, isBlank c = true) → isBlank y = false → isBreak y = false →
    AtP u (sp ++ y :: rest) L C I N false K →
    Ev (plainBlanks indent sm fuel a) u { a with whitespaces := a.whitespaces ++ sp }
      (fun u' => AtP u' (y :: rest) L (C + sp.length) I N false K) := by
  intro sp
  induction sp with
  | nil =>
    intro fuel a y rest u L C I N K _ hy1 hy2 h
    cases fuel with
    | zero => left; exact ⟨_, rfl⟩
    | succ f =>
      unfold plainBlanks
      simp only [List.nil_append] at h
      -- neither a blank nor a break: the run ends
      simp only [In.nextIsBlankOrBreak, ↓Ev.step (h.at_.nextIs _ _), ans, hy1, hy2, Bool.or_self, Bool.false_eq_true, ↓reduceIte,
        List.append_nil, List.length_nil, Nat.add_zero]
      exact Ev.pure' u (by cases a; rfl) h
  | cons c sp ih =>
    intro fuel a y rest u L C I N K hsp hy1 hy2 h
    cases fuel with
    | zero => left; exact ⟨_, rfl⟩
    | succ f =>
      have hc : isBlank c = true := hsp c (by simp)
      unfold plainBlanks
      simp only [List.cons_append] at h
      -- a blank, not at the start of a line: it is kept as pending white space
      simp only [In.nextIsBlankOrBreak, In.nextIsBlank, ↓Ev.step (h.at_.nextIs _ _), ans, hc, Bool.true_or, ↓Ev.getS_step, h.lws,
        Bool.not_false, ↓Ev.step h.at_.peek, List.headD_cons, ↓reduceIte]
      apply Ev.bind (evp_skipBlank h)
      intro u4 h4
      apply Ev.bind (evp_lookahead 2 h4)
      intro u5 h5
      have := ih f { a with whitespaces := a.whitespaces ++ [c] } y rest u5 L (C + 1) I N K
        (fun d hd => hsp d (by simp [hd])) hy1 hy2 h5
      simp only [List.length_cons]
      rw [show C + (sp.length + 1) = C + 1 + sp.length by omega]
      simpa [List.append_assoc] using this

theorem Ev.getMark_bind {β : Type} {f : Marker → S β} {u : Sc} {b : β} {P : Sc → Prop} (h : Ev (f u.mark) u b P) :
    Ev (getMark >>= f) u b P := (Ev.step rfl).mpr h

theorem Ev.toR {α : Type} {m : S α} {u : Sc} {a : α} {P : Sc → Prop} (h : Ev m u a P) : EvR m u (fun x u' => x = a ∧ P u') :=
  C05T.Ev.toR h

/-- how the line ends: the input ends right after the text, or a line feed follows and the next line starts in
    column 0 with something that is not a blank or a break (or the input ends there); in that case `0 ≤ I`, so that
    column 0 is left of the scalar's indentation `I + 1` and the scalar ends -/
def Ending (rest : Str) (I : Int) : Prop :=
  rest = [] ∨ ∃ r2, rest = '\n' :: r2 ∧ 0 ≤ I ∧ (r2 = [] ∨ ∃ y t, r2 = y :: t ∧ isBlank y = false ∧ isBreak y = false)

def finLine (rest : Str) (L : Nat) : Nat := match rest with | [] => L | _ => L + 1
def finCol (rest : Str) (C : Nat) : Nat := match rest with | [] => C | _ => 0
def finLw (rest : Str) : Bool := match rest with | [] => false | _ => true

/-- a line of a plain scalar: ordinary characters and blanks, starting and ending with an ordinary character -/
structure PlainLine (v : Str) : Prop where
  chars : ∀ c ∈ v, PlainCh c ∨ isBlank c = true
  head : ∃ c t, v = c :: t ∧ PlainCh c
  last : ∀ p c, v = p ++ [c] → isBlank c = false

theorem evp_skipBreak_lf {u : Sc} {it : Str} {L C : Nat} {I : Int} {N K : Nat} {lw : Bool} (h : AtP u ('\n' :: it) L C I N lw K) :
    Ev skipBreak u () (fun u' => AtP u' it (L + 1) 0 I N true K) :=
  Ev.ok (skipBreak_eq h.at_.kind .lf it h.at_.iter nofun) (h.nlB .lf)

/-- the end of the line, after the last word -/
theorem evp_ending (sm : Marker) (fuel : Nat) (a : PlAcc) (rest : Str) (u : Sc) (L C : Nat) (I : Int) (N K : Nat)
    (hrest : Ending rest I) (h : AtP u rest L C I N false K) :
    EvR (do
        let isBlank ← liftI In.nextIsBlank
        let isBrk ← if isBlank then pure true else liftI In.nextIsBreak
        if !isBrk then pure a
        else do
          lookahead 2
          let s ← getS
          let a ← plainBlanks (I + 1) sm (s.inp.remaining + 2) a
          let s ← getS
          if s.flowLevel == 0 && (s.mark.col : Int) < (I + 1) then pure a
          else plainLoop (I + 1) sm fuel a) u
      (fun r u' => r.str = a.str ∧ r.endMark = a.endMark ∧
        AtP u' (rest.drop 1) (finLine rest L) (finCol rest C) I N (finLw rest) K) := by
  rcases hrest with rfl | ⟨r2, rfl, hI, hr2⟩
  · -- the end of the input: neither a blank nor a break
    simp only [In.nextIsBlank, In.nextIsBreak, ↓EvR.step (h.at_.nextIs _ _), ans, Bool.not_false, Bool.false_eq_true, ↓reduceIte]
    exact Or.inr ⟨a, u, rfl, rfl, rfl, h⟩
  · -- a line feed: not a blank, a break
    simp only [In.nextIsBlank, In.nextIsBreak, ↓EvR.step (h.at_.nextIs _ _), ans, show isBlank '\n' = false by decide,
      show isBreak '\n' = true by decide, Bool.not_true, Bool.false_eq_true, ↓reduceIte]
    apply EvR.bindEv (evp_lookahead 2 h)
    intro u3 h3
    apply EvR.getS_bind
    -- two rounds of `plainBlanks`: the line feed (not at the start of a line) becomes the pending break; what follows it
    -- is neither a blank nor a break
    have hpb : Ev (plainBlanks (I + 1) sm (u3.inp.remaining + 2) a) u3
        { a with whitespaces := [], leadingBreak := a.leadingBreak ++ ['\n'] }
        (fun u' => AtP u' r2 (L + 1) 0 I N true K) := by
      rw [show u3.inp.remaining + 2 = (u3.inp.remaining + 1) + 1 by omega]
      unfold plainBlanks
      simp only [In.nextIsBlankOrBreak, In.nextIsBlank, ↓Ev.step (h3.at_.nextIs _ _), ↓Ev.getS_step, h3.lws, ans,
        show isBlank '\n' = false by decide, show isBreak '\n' = true by decide, Bool.false_or, Bool.false_eq_true, ↓reduceIte]
      apply Ev.bind (evp_skipBreak_lf h3)
      intro u6 h6
      apply (Ev.step rfl).mpr  -- `modS`: the flag `leadingWhitespace` is set
      apply Ev.bind (evp_lookahead 2 (h6.setLw true))
      intro u8 h8
      unfold plainBlanks
      have hno : ans (fun c => isBlank c || isBreak c) false r2 = false := by
        rcases hr2 with rfl | ⟨y, t, rfl, hy1, hy2⟩
        · rfl
        · simp [ans, hy1, hy2]
      simp only [In.nextIsBlankOrBreak, ↓Ev.step (h8.at_.nextIs _ _), hno, Bool.false_eq_true, ↓reduceIte]
      exact Ev.pure _ u8 h8
    apply EvR.bindEv hpb
    intro u10 h10
    -- column 0 is left of the scalar's indentation `I + 1`: the scalar ends
    simp only [↓EvR.getS_step, h10.flow, h10.at_.col, beq_self_eq_true, Bool.true_and, show ((0 : Nat) : Int) < I + 1 by omega,
      decide_true, ↓reduceIte]
    exact Or.inr ⟨_, u10, rfl, rfl, rfl, h10⟩

theorem ans_bz_ending (rest : Str) (I : Int) (h : Ending rest I) : ans isBlankOrBreakz true rest = true := by
  rcases h with rfl | ⟨r2, rfl, _, _⟩
  · rfl
  · simp [ans]; decide

theorem PlainLine.split {v : Str} (hv : PlainLine v) :
    ∃ c0 w r, v = c0 :: w ++ r ∧ PlainCh c0 ∧ (∀ c ∈ w, PlainCh c) ∧
      (r = [] ∨ ∃ b sp y t, r = b :: sp ++ y :: t ∧ (∀ c ∈ b :: sp, isBlank c = true) ∧ PlainLine (y :: t) ∧
        (y :: t).length < v.length) := by
  obtain ⟨w0, r, rfl, hw0, hsplit⟩ := words_split isBlank v
  obtain ⟨c0, t0, hct, hc0⟩ := hv.head
  have hword : ∀ c ∈ w0, PlainCh c := fun c hc =>
    (hv.chars c (List.mem_append_left _ hc)).resolve_right (by simp [hw0 c hc])
  obtain ⟨w, rfl⟩ : ∃ w, w0 = c0 :: w := by
    cases w0 with
    | nil =>
      rcases hsplit with rfl | ⟨b, sp, v', rfl, hsp, _⟩
      · simp at hct
      · simp only [List.nil_append, List.cons_append, List.cons.injEq] at hct
        have := hsp b (by simp)
        rw [hct.1, (isBlankOrBreakz_false.mp hc0.1).1] at this; exact absurd this (by decide)
    | cons c w => exact ⟨w, by simp at hct; rw [hct.1]⟩
  refine ⟨c0, w, r, rfl, hc0, fun c hc => hword c (by simp [hc]), hsplit.imp_right ?_⟩
  rintro ⟨b, sp, v', rfl, hsp, hv'b, hlen⟩
  -- the line does not end with a blank: something follows the blanks
  obtain ⟨y, t, rfl⟩ : ∃ y t, v' = y :: t := by
    cases v' with
    | cons y t => exact ⟨y, t, rfl⟩
    | nil =>
      have hne : b :: sp ≠ [] := by simp
      have := hv.last (c0 :: w ++ (b :: sp).dropLast) ((b :: sp).getLast hne) (by
        rw [List.append_nil, List.append_assoc, List.dropLast_concat_getLast])
      rw [hsp _ (List.getLast_mem hne)] at this; exact absurd this (by decide)
  have hyp : PlainCh y := (hv.chars y (by simp)).resolve_right (by simp [hv'b y t rfl])
  exact ⟨b, sp, y, t, rfl, hsp, ⟨fun c hc => hv.chars c (by simp [hc]), ⟨y, t, rfl, hyp⟩,
    fun p c hpc => hv.last (c0 :: w ++ (b :: sp) ++ p) c (by rw [hpc]; simp [List.append_assoc])⟩, hlen⟩

theorem evp_plainLine (K : Nat) (hK : 2 ≤ K) (sm : Marker) (v : Str) :
    ∀ (fuel : Nat) (a : PlAcc) (rest : Str) (u : Sc) (L C : Nat) (I : Int) (N : Nat),
    PlainLine v → Ending rest I → I + 1 ≤ (C : Int) → a.leadingBreak = [] → a.trailingBreaks = [] →
    AtP u (v ++ rest) L C I N false K →
    EvR (plainLoop (I + 1) sm fuel a) u (fun r u' =>
      r.str = a.str ++ a.whitespaces ++ v ∧ r.endMark.line = L ∧ r.endMark.col = C + v.length ∧
      r.endMark.index + rest.length = N ∧
      AtP u' (rest.drop 1) (finLine rest L) (finCol rest (C + v.length)) I N (finLw rest) K) := by
  induction hn : v.length using Nat.strongRecOn generalizing v with
  | _ n ih =>
    subst hn
    intro fuel a rest u L C I N hv hrest hC hlb htb h
    cases fuel with
    | zero => exact Or.inl ⟨_, rfl⟩
    | succ f =>
      obtain ⟨c0, w, r, rfl, hc0, hww, hsplit⟩ := hv.split
      simp only [List.cons_append, List.append_assoc] at h
      unfold plainLoop
      apply EvR.bindEv (evp_lookahead 4 h)
      intro u1 h1
      -- not at the start of a line, not a comment, block context, an ordinary character: the word is scanned
      simp only [↓EvR.getS_step, ↓EvR.pure_step, h1.lws, h1.flow, ↓EvR.step h1.at_.peek, ↓EvR.step (h1.at_.peekNth 1),
        In.nextIsBlankOrBreakz, ↓EvR.step (h1.at_.nextIs _ _), ↓EvR.step (h1.canBePlain hc0), List.headD_cons, ans, hc0.1,
        show (c0 == '#') = false by simpa using hc0.2.2, Nat.lt_irrefl, gt_iff_lt, decide_false, Bool.false_and, Bool.or_self,
        Bool.false_eq_true, ↓reduceIte]
      generalize ha1 : (if (!List.isEmpty a.whitespaces) = true then
          ({ str := a.str ++ a.whitespaces, whitespaces := [], leadingBreak := a.leadingBreak,
             trailingBreaks := a.trailingBreaks, endMark := a.endMark } : PlAcc) else a) = a1
      have ha1s : a1.str = a.str ++ a.whitespaces ∧ a1.whitespaces = [] ∧ a1.leadingBreak = [] ∧ a1.trailingBreaks = [] := by
        rw [← ha1]
        cases hwe : a.whitespaces <;> simp [hwe, hlb, htb]
      apply EvR.bindEv (evp_skipNonBlank h1)
      intro u2 h2
      have htl : ans isBlankOrBreakz true (r ++ rest) = true := by
        rcases hsplit with rfl | ⟨b, sp, y, t, rfl, hsp, _⟩
        · simpa using ans_bz_ending rest I hrest
        · simp [ans, isBlankOrBreakz, hsp b (by simp)]
      apply EvR.getS_bind
      apply EvR.bindEv (evp_word K hK w _ (a1.str ++ [c0]) (r ++ rest) u2 L (C + 1) I N hww htl h2)
      intro u3 h3
      simp only [↓EvR.getMark_step, ↓EvR.pure_step, ha1s]
      rcases hsplit with rfl | ⟨b, sp, y, t, rfl, hsp, hpl', hlen⟩
      · rw [List.nil_append] at h3
        refine EvR.mono (evp_ending sm f _ rest u3 L _ I N K hrest h3) ?_
        rintro r u' ⟨hr1', hr2', hr3'⟩
        simp only [List.append_nil, List.length_cons] at hr3' ⊢
        rw [show C + (w.length + 1) = C + 1 + w.length by omega]
        exact ⟨by rw [hr1']; simp [List.append_assoc], hr2' ▸ h3.at_.line, hr2' ▸ h3.at_.col, hr2' ▸ h3.at_.off, hr3'⟩
      · have hbb : isBlank b = true := hsp b (by simp)
        simp only [List.cons_append, List.append_assoc] at h3
        -- a blank follows the word
        simp only [In.nextIsBlank, ↓EvR.step (h3.at_.nextIs _ _), ans, hbb, ↓EvR.pure_step, Bool.not_true, Bool.false_eq_true, ↓reduceIte]
        apply EvR.bindEv (evp_lookahead 2 h3)
        intro u4 h4
        obtain ⟨hy1, hy2, _⟩ : isBlank y = false ∧ isBreak y = false ∧ isZ y = false := by
          obtain ⟨y', t', hyt, hyp⟩ := hpl'.head
          cases hyt; exact isBlankOrBreakz_false.mp hyp.1
        rw [← List.cons_append] at h4
        apply EvR.getS_bind
        apply EvR.bindEv (evp_blanks (I + 1) sm (b :: sp) _ _ y (t ++ rest) u4 L _ I N K hsp hy1 hy2 h4)
        intro u5 h5
        -- still right of the parent's indentation: the loop goes round
        simp only [↓EvR.getS_step, h5.flow, h5.at_.col, beq_self_eq_true, Bool.true_and, show ¬ (((C + 1 + w.length + (b :: sp).length : Nat) : Int) < I + 1) by omega,
          decide_false, Bool.false_eq_true, ↓reduceIte]
        refine EvR.mono (ih _ hlen (y :: t) rfl f _ rest u5 L _ I N hpl' hrest (by omega) rfl rfl h5) ?_
        rintro r u' ⟨q1, q2, q3, q4, q5⟩
        simp only [List.length_cons, List.length_append] at q3 q5 ⊢
        rw [show C + (w.length + 1 + (sp.length + 1 + (t.length + 1))) = C + 1 + w.length + (sp.length + 1) + (t.length + 1) by omega]
        exact ⟨by rw [q1]; simp [List.append_assoc], q2, q3, q4, q5⟩

theorem evp_plainLoop (K : Nat) (hK : 2 ≤ K) (sm : Marker) : ∀ (n : Nat) (v : Str), v.length ≤ n →
    ∀ (fuel : Nat) (a : PlAcc) (rest : Str) (u : Sc) (L C : Nat) (I : Int) (N : Nat),
    PlainLine v → Ending rest I → I + 1 ≤ (C : Int) → a.leadingBreak = [] → a.trailingBreaks = [] →
    AtP u (v ++ rest) L C I N false K →
    EvR (plainLoop (I + 1) sm fuel a) u (fun r u' =>
      r.str = a.str ++ a.whitespaces ++ v ∧ r.endMark.line = L ∧ r.endMark.col = C + v.length ∧
      r.endMark.index + rest.length = N ∧
      AtP u' (rest.drop 1) (finLine rest L) (finCol rest (C + v.length)) I N (finLw rest) K) :=
  fun _ v _ => evp_plainLine K hK sm v

/-- **A whole plain scalar on one line** (block context, in the value position: not at the start of its line).
    The text is words of ordinary characters separated by blanks; the line ends there (end of input), or a line
    feed follows and the next line starts in column 0. The token is a plain scalar with exactly that text; its
    span starts where the scanner stood and ends right after the last character of the text. -/
theorem plain_line_token (K : Nat) (hK : 2 ≤ K) (v rest : Str) (hv : PlainLine v) (u : Sc) (L C : Nat) (I : Int) (N : Nat)
    (hrest : Ending rest I) (hC : I + 1 ≤ (C : Int)) (h : AtP u (v ++ rest) L C I N false K) :
    EvR scanPlainScalarBody u (fun tok u' =>
      tok.ty = .scalar .plain v ∧ tok.span.start = u.mark ∧ tok.span.stop.line = L ∧ tok.span.stop.col = C + v.length ∧
      tok.span.stop.index + rest.length = N ∧
      u'.inp.iter = rest.drop 1 ∧ u'.mark.line = finLine rest L ∧ u'.mark.col = finCol rest (C + v.length)) := by
  unfold scanPlainScalarBody
  -- block context: no indentation check
  simp only [↓EvR.getS_step, h.flow, h.at_.indent, Nat.lt_irrefl, gt_iff_lt, decide_false, Bool.false_and, Bool.false_eq_true, ↓reduceIte]
  apply EvR.bind (evp_plainLoop K hK u.mark v.length v (Nat.le_refl _) _ ⟨[], [], [], [], u.mark⟩ rest u L C I N hv hrest hC rfl rfl h)
  intro a u1 ⟨q1, q2, q3, q4, q5⟩
  apply EvR.getS_bind
  -- `allowSimpleKey` (after a line break) touches neither the input nor the mark
  apply EvR.optional (P := fun u2 => u2.inp = u1.inp ∧ u2.mark = u1.mark) ⟨rfl, rfl⟩
    (Ev.ok (a := ()) (u' := { u1 with simpleKeyAllowed := true }) rfl ⟨rfl, rfl⟩)
  rintro u2 ⟨e1, e2⟩
  have hne : a.str.isEmpty = false := by
    obtain ⟨c, t, hct, _⟩ := hv.head
    rw [q1, hct]; simp
  simp only [hne, Bool.false_eq_true, ↓reduceIte]
  refine Or.inr ⟨_, u2, rfl, ?_, rfl, q2, q3, q4, e1 ▸ q5.at_.iter, e2 ▸ q5.at_.line, e2 ▸ q5.at_.col⟩
  show TokenType.scalar .plain a.str = _
  rw [q1]; simp

end SaphyrModel.C04P
