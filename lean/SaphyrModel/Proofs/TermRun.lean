import SaphyrModel.Proofs.Term
import SaphyrModel.Proofs.Run
/-! The iterator terminates: from the potential of `Term.lean` and the run invariant of `Run.lean`. -/
namespace SaphyrModel

def need (a : Api) : Nat := if a.endEmitted then 1 else phi a.p + 2

/-- **The iterator never runs out of fuel**: with at least `need a` steps allowed, iteration from a
    state satisfying the run invariant ends in `None` or in an error value — never in a panic, and
    in particular not by exhausting the fuel. -/
theorem iterSpec_terminates (fuel : Nat) (a : Api) (g : G) (h : IterInv a g) (hf : need a ≤ fuel) :
    ∀ x, (iterSpec fuel a).2 ≠ some (.panic x) := by
  induction fuel generalizing a g with
  | zero => unfold need at hf; split at hf <;> omega
  | succ n ih =>
    cases hl : a.endEmitted with
    | true => simp [iterSpec, next_done hl]
    | false =>
      rcases next_step h hl with ⟨e, _, hx⟩ | ⟨ev, sp, p', g1, hp, hx, _, hI⟩ <;> simp only [iterSpec, hx]
      · simp
      · have hdec : phi p' < phi a.p := by have := parseStep_below a.p (h.live hl); rwa [hp] at this
        apply ih _ g1 hI
        unfold need at hf ⊢
        simp only [hl, Bool.false_eq_true, ↓reduceIte] at hf
        split
        · omega
        · show phi p' + 2 ≤ n; omega

theorem iterate_terminates (fuel : Nat) (a : Api) (g : G) (h : IterInv a g) (hf : need a ≤ fuel) :
    ∀ x, (iterate fuel a []).2 ≠ some (.panic x) := by
  rw [iterate_eq]; simpa using iterSpec_terminates fuel a g h hf

theorem phi_init (toks : List Token) (scanErr : Option ScanError) (eof : Marker) (keep : Bool) :
    phi (PState.init toks scanErr eof keep) = 16 * toks.length + 1 := by
  simp [phi, wt, PState.init, rk]

end SaphyrModel
