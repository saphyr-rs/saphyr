import SaphyrModel.Spec.CoreSchema
/-! Float parsing: the model of `parse_f64` (loader.rs) + the grammar of `f64::from_str` against the
core-schema float recogniser (used by Props/C08). -/
namespace SaphyrModel.FloatParse
open ProtoR SaphyrModel.Spec

theorem toLower_of_lt (c : Char) (h : c.toNat < 65) : c.toLower = c :=
  dif_neg fun hu => Nat.not_le.2 h (UInt32.le_iff_toNat_le.1 hu.1 : 'A'.val.toNat ≤ c.val.toNat)

theorem lower_floatByte (c : Char) (h : floatByte c = true) : c.toLower ≠ 'i' ∧ c.toLower ≠ 'n' := by
  simp only [floatByte, Bool.or_eq_true, Bool.and_eq_true, decide_eq_true_eq, beq_iff_eq] at h
  rcases h with ((((h | rfl) | rfl) | rfl) | rfl) | rfl
  · rw [toLower_of_lt c (Nat.lt_of_le_of_lt h.2 (by decide))]
    constructor <;> rintro rfl <;> exact absurd h.2 (by decide)
  all_goals decide

/-- no lower-cased run of float bytes is one of the words `inf`, `infinity`, `nan` -/
theorem lower_ne_word (r : Str) (h : r.all floatByte = true) (w : Str) (hw : w.head? = some 'i' ∨ w.head? = some 'n') :
    lower r ≠ w := by
  rintro rfl
  cases r with
  | nil => rcases hw with hw | hw <;> cases hw
  | cons c t =>
    rw [List.all_cons, Bool.and_eq_true] at h
    simp only [lower, List.map_cons, List.head?_cons, Option.some.injEq] at hw
    exact hw.elim (lower_floatByte c h.1).1 (lower_floatByte c h.1).2

/-- the model's names for the schema's `isDec` and `optSign` -/
theorem isDig_eq_isDec : isDig = isDec := rfl
theorem splitSign_eq : splitSign = optSign := rfl

theorem natOfDigits_eq (ds : Str) (h : ds.all isDec = true) : natOfDigits ds = valBase 10 ds := by
  unfold natOfDigits valBase
  generalize 0 = acc
  induction ds generalizing acc with
  | nil => rfl
  | cons c r ih =>
    rw [List.all_cons, Bool.and_eq_true] at h
    rw [List.foldl_cons, List.foldl_cons, hexDigVal, if_pos h.1]
    exact ih h.2 _

/-- the decimal grammar of `f64::from_str` is the core schema's, value for value -/
theorem f64Body_eq (neg : Bool) (r : Str) : f64Body neg r = decBody neg r := by
  unfold f64Body decBody
  rw [isDig_eq_isDec, splitSign_eq]
  -- the schema's side first: its `let`s come out as `ip`, `r1`, `mant?`, then the model's `fr`
  symm
  extract_lets +onlyGivenNames ip r1 mant? fr
  have hip : ip.all isDec = true := List.all_takeWhile
  clear_value ip r1
  -- the schema's optional mantissa is the model's fraction `fr`, unless there is no digit at all
  have hm : fr.1.all isDec = true ∧ mant? = if ip.isEmpty ∧ fr.1.isEmpty then none else some (ip, fr.1, fr.2) := by
    unfold fr mant?
    split
    · exact ⟨List.all_takeWhile, by simp⟩
    · split
      · rename_i h; exact (h _ rfl).elim
      · exact ⟨rfl, by simp⟩
  clear_value fr mant?
  obtain ⟨fp, r2⟩ := fr
  rw [hm.2]
  by_cases h : ip.isEmpty ∧ fp.isEmpty
  · rw [if_pos h, if_pos h]
  rw [if_neg h, if_neg h, natOfDigits_eq (ip ++ fp) (by rw [List.all_append, hip, hm.1]; rfl)]
  cases r2 with
  | nil => rfl
  | cons e t =>
    refine ite_congr (by simp) (fun _ => ?_) (fun _ => rfl)
    -- the exponent: both sides ask for a non-empty run of digits, and on digits the two values agree
    dsimp only
    cases hd : (optSign t).2.all isDec
    · simp
    · rw [natOfDigits_eq _ hd]; cases (optSign t).2.isEmpty <;> rfl

/-- on the bytes `parse_f64` lets through, `f64::from_str` accepts exactly the schema's decimal floats -/
theorem parseF64_eq_core (s : Str) (h : s.all floatByte = true) : parseF64 s = coreDecFloat s := by
  unfold parseF64 coreDecFloat
  have hr : (splitSign s).2.all floatByte = true := by
    unfold splitSign; split
    · simp only [List.all_cons, Bool.and_eq_true] at h; exact h.2
    · simp only [List.all_cons, Bool.and_eq_true] at h; exact h.2
    · exact h
  have hw := lower_ne_word _ hr
  rw [if_neg (not_or.2 ⟨hw _ (.inl rfl), hw _ (.inl rfl)⟩), if_neg (hw _ (.inr rfl)), f64Body_eq, splitSign_eq]

/-- the schema's float recogniser with its tests as propositions, as `parse_f64` has them -/
theorem coreFloat_eq (s : Str) : coreFloat s =
    (let str := String.ofList s
     if str = ".inf" ∨ str = ".Inf" ∨ str = ".INF" ∨ str = "+.inf" ∨ str = "+.Inf" ∨ str = "+.INF" then some (.inf false)
     else if str = "-.inf" ∨ str = "-.Inf" ∨ str = "-.INF" then some (.inf true)
     else if str = ".nan" ∨ str = ".NaN" ∨ str = ".NAN" then some .nan
     else coreDecFloat s) := by
  simp only [coreFloat, Bool.or_eq_true, beq_iff_eq, or_assoc]

/-- `parse_f64` accepts only core-schema floats, with the schema's value -/
theorem parseF64Yaml_sound (v : Str) (f : FloatDen) (h : parseF64Yaml v = some f) : coreFloat v = some f := by
  rw [coreFloat_eq]
  unfold parseF64Yaml at h
  simp only at h ⊢
  -- the three tests for `.inf`, `-.inf`, `.nan` are the same on both sides
  iterate 3
    split
    · rwa [if_pos ‹_›] at h
    rw [if_neg ‹_›] at h
  split at h
  · rwa [← parseF64_eq_core v ‹_›]
  · cases h

end SaphyrModel.FloatParse
