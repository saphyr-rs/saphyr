import SaphyrModel.Sc.Layers
/-! Evaluating the scanner on a string input. Each primitive is evaluated once, as an equation between states
(`peek_eq` … `skipWsToEol_eq`; `fwd`, `req`, `nlB` say where the state has moved). A run is then followed in one of two
ways: by rewriting a state written as `advL s k l`, so many characters past a fixed `s` on the same line (Proofs/DqDecode,
for Props/C09); or with the position predicate `At` and the judgements `Ev`, `EvR` — "on this text the function returns
exactly this, or stops at a panic site" — where an operation that only reads is an equation at the position (`At.peek` …,
used through `Ev.step`) and one that moves has its `ev_*` lemma (the token-level theorems of Props/C03, C04, C05, C12,
C14). `consumeBlanks_run` is here since both ways use it. -/

namespace SaphyrModel.C14L
open SaphyrModel.Sc

/-- the three spellings of a line break -/
inductive Brk | lf | crlf | cr
deriving Repr, DecidableEq

def Brk.txt : Brk → Str
  | .lf => ['\n'] | .crlf => ['\r', '\n'] | .cr => ['\r']

/-- the state after the break `b` was consumed (`r`: the text after it) -/
def nlB (s : Sc) (b : Brk) (r : Str) : Sc :=
  { s with
    inp := { s.inp with iter := r }
    mark := ⟨s.mark.index + b.txt.length, s.mark.line + 1, 0⟩
    leadingWhitespace := true }

theorem brk_head (b : Brk) (R : Str) : ∃ c r, b.txt ++ R = c :: r ∧ (c = '\n' ∨ c = '\r') := by
  cases b
  · exact ⟨'\n', R, rfl, .inl rfl⟩
  · exact ⟨'\r', '\n' :: R, rfl, .inr rfl⟩
  · exact ⟨'\r', R, rfl, .inr rfl⟩

theorem replicate_headD {n : Nat} (hn : n ≠ 0) (c d : Char) (R : Str) : (List.replicate n c ++ R).headD d = c := by
  obtain ⟨m, rfl⟩ := Nat.exists_eq_succ_of_ne_zero hn
  rfl

end SaphyrModel.C14L

namespace SaphyrModel.C05T
/-- what `next_is_*` answers on the remaining text (`e`: the answer at the end of the input) -/
def ans (q : Char → Bool) (e : Bool) : Str → Bool
  | [] => e
  | c :: _ => q c
end SaphyrModel.C05T

namespace SaphyrModel.Sc
open SaphyrModel.C14L SaphyrModel.C05T

/-- `k` characters further on the line (`lw`: the leading-white-space flag afterwards) -/
def fwd (s : Sc) (k : Nat) (lw : Bool) : Sc :=
  { s with
    inp := { s.inp with iter := s.inp.iter.drop k }
    mark := ⟨s.mark.index + k, s.mark.line, s.mark.col + k⟩
    leadingWhitespace := lw }

/-- after a look-ahead request -/
def req (s : Sc) (n : Nat) : Sc := { s with inp := { s.inp with la := max s.inp.la n } }

theorem isBlankOrBreakz_false {c : Char} :
    isBlankOrBreakz c = false ↔ isBlank c = false ∧ isBreak c = false ∧ isZ c = false := by
  simp only [isBlankOrBreakz, isBreakz, Bool.or_eq_false_iff]

theorem bind_panic {α β : Type} {m : S α} {f : α → S β} {s : Sc} {p : Site} (h : m s = .panic p) :
    (m >>= f) s = .panic p := by simp only [Bind.bind, h]
theorem pure_bind_eq {α β : Type} (a : α) (f : α → S β) : (Pure.pure a >>= f) = f a := rfl
theorem getS_bind_eq {β : Type} (f : Sc → S β) (s : Sc) : (getS >>= f) s = f s s := rfl

section
variable {s : Sc} (hk : s.inp.kind = .str)
include hk

theorem peek_eq : peek s = .ok (s.inp.iter.headD '\x00', s) := by simp [peek, liftI, In.peek, hk]
theorem peekNth_eq (n : Nat) : peekNth n s = .ok (s.inp.iter.getD n '\x00', s) := by simp [peekNth, liftI, In.peekNth, hk]
theorem nextIs_eq (q : Char → Bool) (e : Bool) : liftI (In.nextIs q e) s = .ok (ans q e s.inp.iter, s) :=
  liftI_nextIs_str q e s hk
theorem lookahead_eq (n : Nat) : lookahead n s = .ok ((), req s n) := by simp [lookahead, liftI, In.lookahead, hk, req]
theorem lookCh_eq : lookCh s = .ok (s.inp.iter.headD '\x00', req s 1) := by
  simp [lookCh, liftI, In.lookCh, In.lookahead, In.peek, hk, Bind.bind, req]
theorem skipBlank_eq : skipBlank s = .ok ((), fwd s 1 s.leadingWhitespace) := by
  simp [skipBlank, liftI, In.skip, hk, advance, modS, Bind.bind, fwd]
theorem skipNNonBlank_eq (n : Nat) : skipNNonBlank n s = .ok ((), fwd s n false) := by
  simp [skipNNonBlank, liftI, In.skipN, hk, advance, modS, Bind.bind, fwd]
theorem skipNonBlank_eq : skipNonBlank s = .ok ((), fwd s 1 false) := by
  simp [skipNonBlank, liftI, In.skip, hk, advance, modS, Bind.bind, fwd]

/-- `skip_break` on any of the three spellings (a lone CR is one that is not followed by a line feed) -/
theorem skipBreak_eq (b : Brk) (r : Str) (hi : s.inp.iter = b.txt ++ r) (hcr : b = .cr → r.headD '\x00' ≠ '\n') :
    skipBreak s = .ok ((), nlB s b r) := by
  cases b with
  | cr =>
    cases r with
    | nil => simp [skipBreak, Bind.bind, peek_eq hk, peekNth_eq hk, hi, skipNl, liftI, In.skip, hk, modS, nlB, Brk.txt]
    | cons c t =>
      have hc : (c == '\n') = false := by simpa using hcr rfl
      simp [skipBreak, Bind.bind, peek_eq hk, peekNth_eq hk, hi, skipNl, liftI, In.skip, hk, modS, nlB, Brk.txt, hc]
  | _ =>
    simp [skipBreak, Bind.bind, peek_eq hk, peekNth_eq hk, hi, skipNl, liftI, In.skip, hk, modS, nlB, Brk.txt,
      skipBlank, advance, Nat.add_assoc]

omit hk in
theorem strSkipBlanks_none (tabs : Bool) (c : Char) (t : Str) (hb : isBlank c = false) :
    In.strSkipBlanks tabs (c :: t) 0 false false = (0, false, false, c :: t) := by
  unfold In.strSkipBlanks
  split
  · rename_i h; cases h; exact absurd hb (by decide)
  · rename_i h; cases h; exact absurd hb (by decide)
  · rfl

theorem skipWsToEol_eq (hb : isBlank (s.inp.iter.headD '\x00') = false) (hc : s.inp.iter.headD '\x00' ≠ '#') :
    skipWsToEol .yes s = .ok (.result false false, s) := by
  have h0 : In.strSkipBlanks true s.inp.iter 0 false false = (0, false, false, s.inp.iter) := by
    cases hi : s.inp.iter with
    | nil => rfl
    | cons c t => exact strSkipBlanks_none true c t (by simpa [hi] using hb)
  have h1 : In.skipWsToEol .yes s.inp = .ok ((0, .ok (.result false false)), s.inp) := by
    unfold In.skipWsToEol
    simp only [hk, beq_self_eq_true, h0]
    cases hi : s.inp.iter with
    | nil => simp; cases hs : s.inp; simp_all
    | cons c t =>
      have h3 : c ≠ '#' := by simpa [hi] using hc
      split
      · simp_all
      · cases hs : s.inp; simp_all
  simp [skipWsToEol, liftI, h1, Bind.bind, advance, modS, Pure.pure]

end

/-- the state after consuming `k` characters of the current line; `la'` is the look-ahead counter of
    the string input (never read by the functions treated here) -/
def advL (s : Sc) (k : Nat) (la' : Nat) : Sc :=
  { s with inp := { s.inp with iter := s.inp.iter.drop k, la := la' }
           mark := ⟨s.mark.index + k, s.mark.line, s.mark.col + k⟩
           leadingWhitespace := false }

@[simp] theorem advL_kind (s : Sc) (k l) : (advL s k l).inp.kind = s.inp.kind := rfl
@[simp] theorem advL_iter (s : Sc) (k l) : (advL s k l).inp.iter = s.inp.iter.drop k := rfl
@[simp] theorem advL_col (s : Sc) (k l) : (advL s k l).mark.col = s.mark.col + k := rfl
@[simp] theorem advL_line (s : Sc) (k l) : (advL s k l).mark.line = s.mark.line := rfl
@[simp] theorem advL_indent (s : Sc) (k l) : (advL s k l).indent = s.indent := rfl
@[simp] theorem advL_flow (s : Sc) (k l) : (advL s k l).flowLevel = s.flowLevel := rfl
@[simp] theorem advL_advL (s : Sc) (a b la lb : Nat) : advL (advL s a la) b lb = advL s (a + b) lb := by
  simp only [advL, List.drop_drop, Nat.add_assoc]

/-- moving on from a state written as `advL` gives one again; a look-ahead request is absorbed by definition:
    `req (advL s k l) n` is `advL s k (max l n)` -/
theorem fwd_advL (s : Sc) (k l n : Nat) : fwd (advL s k l) n false = advL s (k + n) l := by
  simp only [fwd, advL, List.drop_drop, Nat.add_assoc]

theorem peek_advL (s : Sc) (k l : Nat) (h : s.inp.kind = .str) :
    peek (advL s k l) = .ok ((s.inp.iter.drop k).headD '\x00', advL s k l) := peek_eq (s := advL s k l) h
theorem peekNth_advL (s : Sc) (k l n : Nat) (h : s.inp.kind = .str) :
    peekNth n (advL s k l) = .ok ((s.inp.iter.drop k).getD n '\x00', advL s k l) := peekNth_eq (s := advL s k l) h n
theorem lookahead_advL (s : Sc) (k l n : Nat) (h : s.inp.kind = .str) :
    lookahead n (advL s k l) = .ok ((), advL s k (max l n)) := lookahead_eq (s := advL s k l) h n
theorem lookCh_advL (s : Sc) (k l : Nat) (h : s.inp.kind = .str) :
    lookCh (advL s k l) = .ok ((s.inp.iter.drop k).headD '\x00', advL s k (max l 1)) := lookCh_eq (s := advL s k l) h
theorem skipNNonBlank_str (s : Sc) (n l : Nat) (k : Nat) (h : s.inp.kind = .str) :
    skipNNonBlank n (advL s k l) = .ok ((), advL s (k + n) l) := by
  rw [skipNNonBlank_eq (s := advL s k l) h, fwd_advL]
theorem skipNonBlank_str (s : Sc) (l k : Nat) (h : s.inp.kind = .str) :
    skipNonBlank (advL s k l) = .ok ((), advL s (k + 1) l) := by
  rw [skipNonBlank_eq (s := advL s k l) h, fwd_advL]
theorem skipNonBlank_str0 (s : Sc) (h : s.inp.kind = .str) : skipNonBlank s = .ok ((), advL s 1 s.inp.la) :=
  skipNonBlank_eq h
theorem skipBlank_advL (s : Sc) (l k : Nat) (h : s.inp.kind = .str) :
    skipBlank (advL s k l) = .ok ((), advL s (k + 1) l) := by
  rw [skipBlank_eq (s := advL s k l) h, show (advL s k l).leadingWhitespace = false from rfl, fwd_advL]
theorem nextIs_advL (q : Char → Bool) (e : Bool) (s : Sc) (k l : Nat) (hk : s.inp.kind = .str) (c : Char) (t : Str)
    (hd : s.inp.iter.drop k = c :: t) : liftI (In.nextIs q e) (advL s k l) = .ok (q c, advL s k l) := by
  rw [nextIs_eq (s := advL s k l) hk, advL_iter, hd]; rfl

theorem fwd_req (s : Sc) (n k : Nat) (lw : Bool) : fwd (req s n) k lw = req (fwd s k lw) n := rfl
theorem fwd_fwd (s : Sc) (a b : Nat) (lw lw' : Bool) : fwd (fwd s a lw) b lw' = fwd s (a + b) lw' := by
  simp only [fwd, List.drop_drop, Nat.add_assoc]
theorem req_req (s : Sc) (a b : Nat) : req (req s a) b = req s (max a b) := by simp only [req, Nat.max_assoc]
theorem req_zero (s : Sc) : req s 0 = s := by simp only [req, Nat.max_zero]

/-- **A run of blanks** inside a flow scalar (no line break so far) in front of something that is neither a blank nor a
    break is collected as pending white space: one unit of fuel per blank and one to see the end of the run -/
theorem consumeBlanks_run (x : Char) (tail : Str) (hx1 : isBlank x = false) (hx2 : isBreak x = false) :
    ∀ (sp : Str) (fuel : Nat) (a : WsAcc) (s : Sc), s.inp.kind = .str → (∀ c ∈ sp, isBlank c = true) →
    s.inp.iter = sp ++ x :: tail →
    ∃ m, consumeBlanks fuel a false s =
      if fuel ≤ sp.length then .panic .fuel
      else .ok (({ a with whitespaces := a.whitespaces ++ sp }, false), req (fwd s sp.length s.leadingWhitespace) m) := by
  intro sp
  induction sp with
  | nil =>
    intro fuel a s hk _ hi
    cases fuel with
    | zero => exact ⟨0, rfl⟩
    | succ f =>
      refine ⟨0, ?_⟩
      rw [List.nil_append] at hi
      unfold consumeBlanks
      rw [In.nextIsBlank, bind_ok (nextIs_eq hk _ _)]
      simp only [hi, ans, hx1, Bool.false_eq_true, ↓reduceIte]
      rw [In.nextIsBreak, bind_ok (nextIs_eq hk _ _)]
      simp only [hi, ans, hx2, Bool.false_eq_true, ↓reduceIte, List.append_nil, List.length_nil, Nat.le_zero_eq,
        Nat.add_one_ne_zero, req_zero]
      rfl
  | cons c sp ih =>
    intro fuel a s hk hsp hi
    cases fuel with
    | zero => exact ⟨0, rfl⟩
    | succ f =>
      rw [List.cons_append] at hi
      obtain ⟨m, e⟩ := ih f { a with whitespaces := a.whitespaces ++ [c] } (req (fwd s 1 s.leadingWhitespace) 1) hk
        (fun d hd => hsp d (by simp [hd])) (by show s.inp.iter.drop 1 = _; rw [hi]; rfl)
      refine ⟨max 1 m, ?_⟩
      unfold consumeBlanks
      rw [In.nextIsBlank, bind_ok (nextIs_eq hk _ _)]
      simp only [hi, ans, hsp c (by simp), ↓reduceIte, Bool.false_eq_true]
      rw [bind_ok (peek_eq hk), bind_ok (skipBlank_eq hk), bind_ok (lookahead_eq (s := fwd s 1 _) hk 1)]
      simp only [hi, List.headD_cons]
      rw [e]
      simp only [List.length_cons, Nat.add_le_add_iff_right, List.append_assoc, List.cons_append,
        List.nil_append, fwd_req, fwd_fwd, req_req, Nat.add_comm 1]
      rfl

end SaphyrModel.Sc

namespace SaphyrModel.C14L
open SaphyrModel.Sc

/-- `read_break` on any of the three spellings: one `'\n'`, next line, column 0 (a lone CR is one that is not
    followed by a line feed) -/
theorem readBreak_brk (acc : Str) (s : Sc) (hk : s.inp.kind = .str) (b : Brk) (r : Str)
    (hi : s.inp.iter = b.txt ++ r) (hcr : r.headD '\x00' ≠ '\n') :
    readBreak acc s = .ok (acc ++ ['\n'], nlB s b r) := by
  rw [readBreak, bind_ok (skipBreak_eq hk b r hi fun _ => hcr)]; rfl

end SaphyrModel.C14L

namespace SaphyrModel.C05T
open SaphyrModel.Sc SaphyrModel.C14L

/-- where the scanner stands: string input, remaining text, line, column, parent indentation -/
structure At (u : Sc) (it : Str) (line col : Nat) (ind : Int) (N : Nat) : Prop where
  kind : u.inp.kind = .str
  iter : u.inp.iter = it
  line : u.mark.line = line
  col : u.mark.col = col
  indent : u.indent = ind
  /-- the index counts the characters consumed: index + what remains = the length of the whole text -/
  off : u.mark.index + it.length = N

/-- `m` started in `u` either stops at a panic site (any site, not only `fuel`) or returns `a` in a state
    satisfying `P` -/
def Ev {α : Type} (m : S α) (u : Sc) (a : α) (P : Sc → Prop) : Prop :=
  (∃ p, m u = .panic p) ∨ ∃ u', m u = .ok (a, u') ∧ P u'

/-- the same when the result depends on the final state -/
def EvR {α : Type} (m : S α) (u : Sc) (R : α → Sc → Prop) : Prop :=
  (∃ p, m u = .panic p) ∨ ∃ a u', m u = .ok (a, u') ∧ R a u'

section
variable {α β : Type} {m : S α} {u u' : Sc} {a : α} {b : β} {P Q : Sc → Prop} {R : α → Sc → Prop} {T : β → Sc → Prop}

theorem Ev.ok (h : m u = .ok (a, u')) (hp : P u') : Ev m u a P := Or.inr ⟨u', h, hp⟩

theorem Ev.toR (h : Ev m u a P) : EvR m u (fun x u' => x = a ∧ P u') :=
  h.imp_right fun ⟨u', hok, hP⟩ => ⟨a, u', hok, rfl, hP⟩

theorem EvR.bind {f : α → S β} (h1 : EvR m u R) (h2 : ∀ a u', R a u' → EvR (f a) u' T) : EvR (m >>= f) u T := by
  rcases h1 with ⟨p, hp⟩ | ⟨a, u', hok, hR⟩
  · exact Or.inl ⟨p, bind_panic hp⟩
  · unfold EvR; rw [bind_ok hok]; exact h2 a u' hR

theorem EvR.bindEv {f : α → S β} (h1 : Ev m u a P) (h2 : ∀ u', P u' → EvR (f a) u' T) : EvR (m >>= f) u T :=
  h1.toR.bind fun _ u' ⟨e, hp⟩ => e ▸ h2 u' hp

theorem Ev.bind {α β : Type} {m : S α} {f : α → S β} {u : Sc} {a : α} {b : β} {P Q : Sc → Prop}
    (h1 : Ev m u a P) (h2 : ∀ u', P u' → Ev (f a) u' b Q) : Ev (m >>= f) u b Q := by
  rcases h1 with ⟨p, hp⟩ | ⟨u', hok, hP⟩
  · exact Or.inl ⟨p, bind_panic hp⟩
  · unfold Ev; rw [bind_ok hok]; exact h2 u' hP

theorem EvR.optional {c : Prop} [Decidable c] {m : S α} {k : S β} (hu : P u) (hm : Ev m u a P)
    (hk : ∀ u', P u' → EvR k u' T) : EvR (if c then m >>= fun _ => k else k) u T := by
  split
  · exact EvR.bindEv hm hk
  · exact hk u hu

theorem EvR.mono {T : α → Sc → Prop} (h : EvR m u R) (hpq : ∀ a u', R a u' → T a u') : EvR m u T :=
  h.imp_right fun ⟨a, u', hok, hR⟩ => ⟨a, u', hok, hpq a u' hR⟩

theorem Ev.mono {α : Type} {m : S α} {u : Sc} {a : α} {P Q : Sc → Prop} (h : Ev m u a P) (hpq : ∀ u', P u' → Q u') :
    Ev m u a Q :=
  h.imp_right fun ⟨u', hok, hP⟩ => ⟨u', hok, hpq u' hP⟩

theorem EvR.of_ok (h : EvR m u R) (hok : m u = .ok (a, u')) : R a u' := by
  rcases h with ⟨p, hp⟩ | ⟨a', w, e, hR⟩
  · rw [hp] at hok; cases hok
  · rw [e] at hok; cases hok; exact hR

theorem Ev.pure (a : α) (u : Sc) (hp : P u) : Ev (Pure.pure a : S α) u a P := Ev.ok rfl hp
theorem Ev.pure' {a a' : α} (u : Sc) (he : a = a') (hp : P u) : Ev (Pure.pure a : S α) u a' P := he ▸ Ev.pure a u hp
theorem Ev.getS (u : Sc) {P : Sc → Prop} (hp : P u) : Ev (getS : S Sc) u u P := Ev.ok rfl hp

/-- A step whose outcome is known hands the judgement on to what follows. With the equations `At.peek` … for the
    operations that only read, a stretch of reads and decided branches is one `simp only`: the reads as `↓Ev.step h.peek` …,
    then the facts about the state and the text that decide the branches (`↓`: the step is taken before `simp` looks into
    what follows it, so nothing is rewritten in a continuation whose argument is not yet known). Returning a value,
    reading the state or its mark are the case `h := rfl`. -/
theorem EvR.step {f : α → S β} (h : m u = .ok (a, u')) : EvR (m >>= f) u T ↔ EvR (f a) u' T := by
  unfold EvR; rw [bind_ok h]
theorem Ev.step {f : α → S β} (h : m u = .ok (a, u')) : Ev (m >>= f) u b Q ↔ Ev (f a) u' b Q := by
  unfold Ev; rw [bind_ok h]

theorem Ev.pure_step {f : α → S β} : Ev (Pure.pure a >>= f) u b Q ↔ Ev (f a) u b Q := Ev.step rfl
theorem Ev.getS_step {f : Sc → S β} : Ev (Sc.getS >>= f) u b Q ↔ Ev (f u) u b Q := Ev.step rfl
theorem EvR.pure_step {f : α → S β} : EvR (Pure.pure a >>= f) u T ↔ EvR (f a) u T := EvR.step rfl
theorem EvR.getS_step {f : Sc → S β} : EvR (Sc.getS >>= f) u T ↔ EvR (f u) u T := EvR.step rfl
theorem EvR.getMark_step {f : Marker → S β} : EvR (Sc.getMark >>= f) u T ↔ EvR (f u.mark) u T := EvR.step rfl

theorem EvR.getS_bind {f : Sc → S β} (h : EvR (f u) u T) : EvR (Sc.getS >>= f) u T := EvR.getS_step.mpr h
end

section
variable {u : Sc} {it : Str} {L C : Nat} {I : Int} {N : Nat}

theorem At.off_append {w : Str} (h : At u (w ++ it) L C I N) : u.mark.index + w.length + it.length = N := by
  rw [← h.off, List.length_append, Nat.add_assoc]

theorem At.fwd (w : Str) (lw : Bool) (h : At u (w ++ it) L C I N) : At (fwd u w.length lw) it L (C + w.length) I N := by
  refine ⟨h.kind, ?_, h.line, congrArg (· + w.length) h.col, h.indent, h.off_append⟩
  show u.inp.iter.drop w.length = it
  rw [h.iter, List.drop_left]

theorem At.req (n : Nat) (h : At u it L C I N) : At (req u n) it L C I N := ⟨h.kind, h.iter, h.line, h.col, h.indent, h.off⟩

theorem At.nlB (b : Brk) (h : At u (b.txt ++ it) L C I N) : At (nlB u b it) it (L + 1) 0 I N :=
  ⟨h.kind, rfl, congrArg (· + 1) h.line, rfl, h.indent, h.off_append⟩

theorem At.peek (h : At u it L C I N) : Sc.peek u = .ok (it.headD '\x00', u) := h.iter ▸ peek_eq h.kind
theorem At.peekNth (n : Nat) (h : At u it L C I N) : Sc.peekNth n u = .ok (it.getD n '\x00', u) := h.iter ▸ peekNth_eq h.kind n
theorem At.nextIs (q : Char → Bool) (e : Bool) (h : At u it L C I N) : Sc.liftI (In.nextIs q e) u = .ok (ans q e it, u) :=
  h.iter ▸ nextIs_eq h.kind q e

theorem ev_lookCh {u : Sc} {it : Str} {L C : Nat} {I : Int} {N : Nat} (h : At u it L C I N) :
    Ev lookCh u (it.headD '\x00') (fun u' => At u' it L C I N) := Ev.ok (h.iter ▸ lookCh_eq h.kind) (h.req 1)

theorem ev_lookahead (n : Nat) (h : At u it L C I N) : Ev (Sc.lookahead n) u () (fun u' => At u' it L C I N) :=
  Ev.ok (lookahead_eq h.kind n) (h.req n)

theorem ev_nextIs (q : Char → Bool) (e : Bool) {u : Sc} {it : Str} {L C : Nat} {I : Int} {N : Nat} (h : At u it L C I N) :
    Ev (Sc.liftI (In.nextIs q e)) u (ans q e it) (fun u' => At u' it L C I N) := Ev.ok (h.iter ▸ nextIs_eq h.kind q e) h

theorem ev_skipBlank {u : Sc} {c : Char} {it : Str} {L C : Nat} {I : Int} {N : Nat} (h : At u (c :: it) L C I N) :
    Ev skipBlank u () (fun u' => At u' it L (C + 1) I N) := Ev.ok (skipBlank_eq h.kind) (h.fwd [c] _)

theorem ev_skipNonBlank {c : Char} (h : At u (c :: it) L C I N) : Ev skipNonBlank u () (fun u' => At u' it L (C + 1) I N) :=
  Ev.ok (skipNonBlank_eq h.kind) (h.fwd [c] _)

theorem ev_skipN (w : Str) (h : At u (w ++ it) L C I N) :
    Ev (skipNNonBlank w.length) u () (fun u' => At u' it L (C + w.length) I N) := Ev.ok (skipNNonBlank_eq h.kind _) (h.fwd w _)

theorem ev_readBreak (acc : Str) (b : Brk) {u : Sc} {it : Str} {L C : Nat} {I : Int} {N : Nat} (h : At u (b.txt ++ it) L C I N)
    (hcr : it.headD '\x00' ≠ '\n') :
    Ev (readBreak acc) u (acc ++ ['\n']) (fun u' => At u' it (L + 1) 0 I N) :=
  Ev.ok (readBreak_brk acc u h.kind b it h.iter hcr) (h.nlB b)

theorem ev_skipWsToEol (hb : isBlank (it.headD '\x00') = false) (hc : it.headD '\x00' ≠ '#') (h : At u it L C I N) :
    Ev (Sc.skipWsToEol .yes) u (.result false false) (fun u' => At u' it L C I N) :=
  Ev.ok (skipWsToEol_eq h.kind (h.iter ▸ hb) (h.iter ▸ hc)) h
end

end SaphyrModel.C05T
