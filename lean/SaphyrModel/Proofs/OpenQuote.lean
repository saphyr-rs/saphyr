import SaphyrModel.Sc.KeepsScan
import SaphyrModel.Proofs.StrEval
/-! C06, "a quoted scalar still open at end of input": on a string input `scan_flow_scalar` returns a token only
if the closing quote character occurs in the text after the opening one — for every text, both quote styles,
any number of lines. (`SF m`: started on a string input, `m` leaves a string input whose remaining text is a
suffix of what it started with.) -/
namespace SaphyrModel.Sc

structure SI (m : M In α) : Prop where
  out : ∀ i, i.kind = .str → ∀ a i', m i = .ok (a, i') → i'.kind = .str ∧ i'.iter <:+ i.iter

structure SF (m : S α) : Prop where
  out : ∀ s, s.inp.kind = .str → ∀ a s', m s = .ok (a, s') → s'.inp.kind = .str ∧ s'.inp.iter <:+ s.inp.iter

instance (t : Str) : Fetch (fun _ => True) (fun s => s.inp.kind = .str ∧ s.inp.iter <:+ t) :=
  .ofStr trivial (fun _ => trivial) fun h1 h2 => h1.trans h2

theorem SF.of {m : S α} (h : ∀ t, Keeps (fun _ => True) (fun s => s.inp.kind = .str ∧ s.inp.iter <:+ t) m) : SF m :=
  ⟨fun _ hk _ _ hm => (h _).ok ⟨hk, List.suffix_refl _⟩ hm⟩
theorem SI.of {m : M In α} [InOp m] : SI m := ⟨fun _ hk _ _ hm => InOp.str hk hm⟩

theorem SI.pure (a : α) : SI (Pure.pure a : M In α) := .of
theorem SI.lookahead (n) : SI (In.lookahead n) := .of
theorem SI.lookCh : SI In.lookCh := .of
theorem SF.getMark : SF getMark := .of fun _ => Keeps.getMark
theorem SF.lookahead (n) : SF (lookahead n) := .of fun _ => Keeps.lookahead n
theorem SF.lookCh : SF lookCh := .of fun _ => Keeps.lookCh
theorem SF.advance (n) : SF (advance n) := .of fun _ => Keeps.advance n
theorem SF.resolveEscape (sm : Marker) : SF (resolveEscape sm) := .of fun _ => Keeps.resolveEscape sm

def quoteOf (single : Bool) : Char := if single then '\'' else '"'

/-- `PQ q m`: whenever `m`, started on a string input, returns normally, it has stopped in front of the
    character `q`, somewhere in the text it started with -/
structure PQ (q : Char) (m : S α) : Prop where
  out : ∀ s, s.inp.kind = .str → ∀ a s', m s = .ok (a, s') →
    s'.inp.kind = .str ∧ s'.inp.iter <:+ s.inp.iter ∧ s'.inp.iter.headD '\x00' = q

theorem PQ.bindSF {q : Char} {m : S α} {f : α → S β} (h1 : SF m) (h2 : ∀ a, PQ q (f a)) : PQ q (m >>= f) := by
  constructor
  intro s hk b s' h
  obtain ⟨a, s1, hm, hf⟩ := bind_ok_iff.1 h
  obtain ⟨hk1, hs1⟩ := h1.out s hk a s1 hm
  obtain ⟨hk2, hs2, hq⟩ := (h2 a).out s1 hk1 b s' hf
  exact ⟨hk2, hs2.trans hs1, hq⟩

theorem PQ.ite {q : Char} {c : Prop} [Decidable c] {a b : S α} (ha : PQ q a) (hb : PQ q b) : PQ q (if c then a else b) := by
  split <;> assumption
theorem PQ.err {q : Char} (m : Marker) (msg : String) : PQ q (err m msg : S α) := ⟨fun s _ b s' h => by cases h⟩

/-- the only normal exit of the loop: the character just looked at is the closing quote -/
theorem PQ.exit (single : Bool) (str : Str) {X : Char → S Str} (hX : ∀ c, PQ (quoteOf single) (X c)) :
    PQ (quoteOf single) (lookCh >>= fun c =>
      if ((c == '\'' && single) || (c == '"' && !single)) = true then (Pure.pure str : S Str) else X c) := by
  constructor
  intro s hk b s' h
  rw [bind_ok (lookCh_eq hk)] at h
  split at h
  · cases h
    refine ⟨hk, List.suffix_refl _, ?_⟩
    show s.inp.iter.headD '\x00' = quoteOf single
    cases single <;> simp_all [quoteOf]
  · exact (hX _).out (req s 1) hk b s' h

theorem flowScalarLoop_exit (single : Bool) (sm : Marker) : ∀ fuel str a, PQ (quoteOf single) (flowScalarLoop single sm fuel str a) := by
  intro fuel
  induction fuel with
  | zero => intro str a; unfold Sc.flowScalarLoop; exact ⟨fun _ _ _ _ h => nomatch h⟩
  | succ n ih =>
    intro str a
    unfold Sc.flowScalarLoop In.nextIsZ
    refine .bindSF (SF.lookahead 4) fun _ => .bindSF (.of fun _ => Keeps.getS) fun s => ?_
    -- the two branches of the document-indicator test join in one continuation `jp`, gone through once:
    -- every path through it ends in an error, in the next round, or behind the test of `PQ.exit`;
    -- the steps before (`SF`) only move forward in the text
    extract_lets jp
    have hjp : ∀ docInd, PQ (quoteOf single) (jp docInd) := by
      intro docInd
      unfold jp
      repeat' (first
        | with_reducible exact PQ.err _ _
        | with_reducible exact ih _ _
        | (refine SF.of fun _ => ?_; keeps)
        | with_reducible apply PQ.exit
        | with_reducible apply PQ.bindSF
        | with_reducible apply PQ.ite
        | intro _)
    clear_value jp
    split
    · exact .bindSF (.of fun _ => by keeps) hjp
    · exact .bindSF (.of fun _ => Keeps.pure _) hjp

/-- **A quoted scalar that is never closed yields no token.** On a string input, whenever `scan_flow_scalar`
    returns a token, the closing quote character of its style occurs in the text after the opening quote. -/
theorem scanFlowScalar_ok_has_quote (single : Bool) (u : Sc) (hk : u.inp.kind = .str) (tok : Token) (u' : Sc)
    (h : scanFlowScalar single u = .ok (tok, u')) : quoteOf single ∈ u.inp.iter.tail := by
  unfold scanFlowScalar at h
  rw [bind_ok (show getMark u = .ok (u.mark, u) from rfl), bind_ok (skipNonBlank_eq hk),
    bind_ok (show getS (fwd u 1 false) = .ok (fwd u 1 false, fwd u 1 false) from rfl)] at h
  obtain ⟨str, u2, hl, _⟩ := bind_ok_iff.1 h
  obtain ⟨_, hsuf, hq⟩ := (flowScalarLoop_exit single u.mark _ [] ⟨[], [], []⟩).out (fwd u 1 false) hk str u2 hl
  rw [show (fwd u 1 false).inp.iter = u.inp.iter.tail from List.drop_one] at hsuf
  cases hit : u2.inp.iter with
  | nil =>
    rw [hit] at hq
    cases single <;> simp [quoteOf] at hq
  | cons c t =>
    rw [hit] at hq hsuf
    exact hsuf.subset (by rw [← hq]; exact List.mem_cons_self)

/-- **A hexadecimal escape with a character that is not a hexadecimal digit among its digits is rejected**
    (string input; `n` digits expected, `k` still to read, the offending character at position `n - k + j`) -/
theorem hexLoop_rejects (sm : Marker) (n : Nat) : ∀ (k v : Nat) (s : Sc), s.inp.kind = .str → k ≤ n →
    (∃ j, j < k ∧ isHex (s.inp.iter.getD (n - k + j) '\x00') = false) →
    ∃ e, hexLoop sm n k v s = .err e := by
  intro k
  induction k with
  | zero => intro v s _ _ ⟨j, hj, _⟩; omega
  | succ k ih =>
    intro v s hk hkn ⟨j, hj, hbad⟩
    unfold Sc.hexLoop
    rw [bind_ok (peekNth_eq hk _)]
    cases hh : isHex (s.inp.iter.getD (n - (k + 1)) '\x00')
    · exact ⟨_, rfl⟩
    · -- this one is a digit, so the offending character comes later
      cases j with
      | zero => rw [Nat.add_zero, hh] at hbad; cases hbad
      | succ j =>
        exact ih _ s hk (by omega) ⟨j, by omega, by rw [show n - k + j = n - (k + 1) + (j + 1) by omega]; exact hbad⟩

/-- **An unknown escape character is rejected**: a backslash followed by a character that is neither one of the
    18 named escapes nor `x`, `u`, `U` (string input) -/
theorem resolveEscape_unknown (sm : Marker) (s : Sc) (hk : s.inp.kind = .str) (e : Char)
    (he : s.inp.iter.getD 1 '\x00' = e) (hn : namedEscape e = none) (hx : e ≠ 'x') (hu : e ≠ 'u') (hU : e ≠ 'U') :
    ∃ err, resolveEscape sm s = .err err := by
  unfold Sc.resolveEscape
  rw [bind_ok (peekNth_eq hk 1), he]
  simp only [hn, beq_eq_false_iff_ne.2 hx, beq_eq_false_iff_ne.2 hu, beq_eq_false_iff_ne.2 hU, Bool.false_eq_true,
    ↓reduceIte, beq_self_eq_true]
  exact ⟨_, rfl⟩

end SaphyrModel.Sc
