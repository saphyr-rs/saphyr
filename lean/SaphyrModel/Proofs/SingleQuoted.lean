import SaphyrModel.Proofs.StrEval
import SaphyrModel.Proofs.Words
/-! C04, single-quoted scalars on one line: `''` decodes to one quote, blanks inside are kept, every other
character is passed through — for every value without line breaks (string input). -/
namespace SaphyrModel.C04S
open SaphyrModel.Sc SaphyrModel.C05T

/-- how a value is written between single quotes: every quote doubled -/
def sqChar (c : Char) : Str := if c == '\'' then ['\'', '\''] else [c]
def sqEnc (v : Str) : Str := v.flatMap sqChar

def WordCh (c : Char) : Prop := isBlankOrBreakz c = false

/-- **A word between single quotes.** A run of characters that are not blanks, breaks or NUL, written with its
    quotes doubled, followed by a blank or break or by a quote that is not itself doubled: `consumeNonWs`
    appends exactly the run, each `''` as one quote, and stops in front of what follows. -/
theorem ev_word (sm : Marker) : ∀ (w : Str) (fuel : Nat) (str : Str) (lb : Bool) (x : Char) (rest : Str) (u : Sc) (L C : Nat) (I : Int) (N : Nat),
    (∀ c ∈ w, WordCh c) → (isBlankOrBreakz x = true ∨ (x = '\'' ∧ rest.headD '\x00' ≠ '\'')) →
    At u (sqEnc w ++ x :: rest) L C I N →
    Ev (consumeNonWs true sm fuel str lb) u (str ++ w, lb) (fun u' => At u' (x :: rest) L (C + (sqEnc w).length) I N) := by
  intro w
  induction w with
  | nil =>
    intro fuel str lb x rest u L C I N _ hx h
    cases fuel with
    | zero => left; exact ⟨_, rfl⟩
    | succ f =>
      simp only [sqEnc, List.flatMap_nil, List.nil_append, List.length_nil, Nat.add_zero, List.append_nil] at h ⊢
      unfold consumeNonWs
      rcases hx with hx | ⟨rfl, hr⟩
      · -- a blank or a break: the word ends
        simp only [↓Ev.step h.peek, List.headD_cons, hx, ↓reduceIte]
        exact Ev.pure _ u h
      · -- a quote that is not followed by another one: the word ends
        have : (rest.headD '\x00' == '\'') = false := by simpa using hr
        have hg : ('\'' :: rest).getD 1 '\x00' = rest.headD '\x00' := by cases rest <;> rfl
        simp only [↓Ev.step h.peek, ↓Ev.step (h.peekNth 1), List.headD_cons, hg, this, show isBlankOrBreakz '\'' = false by decide,
          beq_self_eq_true, Bool.and_self, Bool.false_eq_true, ↓reduceIte]
        exact Ev.pure _ u h
  | cons c w ih =>
    intro fuel str lb x rest u L C I N hw hx h
    cases fuel with
    | zero => left; exact ⟨_, rfl⟩
    | succ f =>
      have hc : isBlankOrBreakz c = false := hw c (by simp)
      have hw' : ∀ d ∈ w, WordCh d := fun d hd => hw d (by simp [hd])
      unfold consumeNonWs
      by_cases hq : c = '\''
      · subst hq
        have he : sqEnc ('\'' :: w) ++ x :: rest = '\'' :: '\'' :: (sqEnc w ++ x :: rest) := by
          simp [sqEnc, sqChar]
        rw [he] at h
        -- a doubled quote: both are skipped, one is appended
        simp only [↓Ev.step h.peek, ↓Ev.step (h.peekNth 1), List.headD_cons, show isBlankOrBreakz '\'' = false by decide,
          show ('\'' :: '\'' :: (sqEnc w ++ x :: rest)).getD 1 '\x00' = '\'' from rfl, beq_self_eq_true, Bool.and_self,
          Bool.false_eq_true, ↓reduceIte]
        apply Ev.bind (ev_skipN ['\'', '\''] h)
        intro u3 h3
        apply Ev.bind (ev_lookahead 2 h3)
        intro u4 h4
        have := ih f (str ++ ['\'']) lb x rest u4 L (C + 2) I N hw' hx h4
        have hl : (sqEnc ('\'' :: w)).length = 2 + (sqEnc w).length := by simp [sqEnc, sqChar]; omega
        rw [hl, show C + (2 + (sqEnc w).length) = C + 2 + (sqEnc w).length by omega]
        simpa [List.append_assoc] using this
      · have he : sqEnc (c :: w) ++ x :: rest = c :: (sqEnc w ++ x :: rest) := by
          simp [sqEnc, sqChar, hq]
        rw [he] at h
        have hcq : (c == '\'') = false := by simpa using hq
        -- any other character of a word: it is appended
        simp only [↓Ev.step h.peek, List.headD_cons, hc, hcq, Bool.false_and, Bool.not_true, Bool.and_false, Bool.false_eq_true, ↓reduceIte]
        apply Ev.bind (ev_skipNonBlank h)
        intro u2 h2
        apply Ev.bind (ev_lookahead 2 h2)
        intro u3 h3
        have := ih f (str ++ [c]) lb x rest u3 L (C + 1) I N hw' hx h3
        have hl : (sqEnc (c :: w)).length = 1 + (sqEnc w).length := by simp [sqEnc, sqChar, hq]; omega
        rw [hl, show C + (1 + (sqEnc w).length) = C + 1 + (sqEnc w).length by omega]
        simpa [List.append_assoc] using this

/-- **A run of blanks** between single quotes (no line break so far) is collected as pending white space -/
theorem ev_blanks : ∀ (sp : Str) (fuel : Nat) (a : WsAcc) (y : Char) (rest : Str) (u : Sc) (L C : Nat) (I : Int) (N : Nat),
    (∀ c ∈ sp, isBlank c = true) → isBlank y = false → isBreak y = false →
    At u (sp ++ y :: rest) L C I N →
    Ev (consumeBlanks fuel a false) u ({ a with whitespaces := a.whitespaces ++ sp }, false)
      (fun u' => At u' (y :: rest) L (C + sp.length) I N) := by
  intro sp fuel a y rest u L C I N hsp hy1 hy2 h
  obtain ⟨m, e⟩ := consumeBlanks_run y rest hy1 hy2 sp fuel a u h.kind hsp h.iter
  split at e
  · exact Or.inl ⟨_, e⟩
  · exact Ev.ok e ((h.fwd sp _).req m)

theorem sqEnc_append (a b : Str) : sqEnc (a ++ b) = sqEnc a ++ sqEnc b := by simp [sqEnc]

theorem sqEnc_blanks (sp : Str) (h : ∀ c ∈ sp, isBlank c = true) : sqEnc sp = sp :=
  flatMap_self sqChar sp fun c hc => by
    have hq : c ≠ '\'' := by intro e; have := h c hc; rw [e] at this; exact absurd this (by decide)
    simp [sqChar, hq]

def OneLine (v : Str) : Prop := ∀ c ∈ v, isBreak c = false ∧ isZ c = false

theorem enc_head (v rest : Str) (hv : OneLine v) :
    ∃ y t, sqEnc v ++ '\'' :: rest = y :: t ∧ isZ y = false ∧ isBreak y = false ∧ (isBlank y = true → ∃ t', v = y :: t') := by
  cases v with
  | nil => exact ⟨'\'', rest, rfl, by decide, by decide, fun h => absurd h (by decide)⟩
  | cons c t =>
    by_cases hq : c = '\''
    · subst hq; exact ⟨'\'', _, by simp [sqEnc, sqChar]; rfl, by decide, by decide, fun h => absurd h (by decide)⟩
    · exact ⟨c, sqEnc t ++ '\'' :: rest, by simp [sqEnc, sqChar, hq], (hv c (by simp)).2, (hv c (by simp)).1, fun _ => ⟨t, rfl⟩⟩

/-- **The body of a single-quoted scalar on one line.** In front of the value written with doubled quotes, the
    closing quote (not followed by another quote) and anything, the loop of `scan_flow_scalar` returns exactly
    the value — `''` as one quote, blanks kept, everything else unchanged — and stops at the closing quote. -/
theorem ev_sqLine (sm : Marker) (v : Str) : ∀ (fuel : Nat) (str rest : Str) (u : Sc) (L C : Nat) (I : Int) (N : Nat),
    OneLine v → rest.headD '\x00' ≠ '\'' → C ≠ 0 → I ≤ (C : Int) →
    At u (sqEnc v ++ '\'' :: rest) L C I N →
    Ev (flowScalarLoop true sm fuel str ⟨[], [], []⟩) u (str ++ v)
      (fun u' => At u' ('\'' :: rest) L (C + (sqEnc v).length) I N) := by
  induction hn : v.length using Nat.strongRecOn generalizing v with
  | _ n ih =>
    subst hn
    intro fuel str rest u L C I N hv hr hC hI h
    cases fuel with
    | zero => exact Or.inl ⟨_, rfl⟩
    | succ f =>
      obtain ⟨y0, t0, hy0, hz0, _⟩ := enc_head v rest hv
      obtain ⟨w, r, rfl, hw, hsplit⟩ := words_split isBlank v
      have hww : ∀ c ∈ w, WordCh c := fun c hc => isBlankOrBreakz_false.mpr ⟨hw c hc, hv c (List.mem_append_left _ hc)⟩
      unfold flowScalarLoop
      apply Ev.bind (ev_lookahead 4 h)
      intro u1 h1
      -- not in column 0, not at the end of the input, not left of the indentation
      simp only [↓Ev.getS_step, ↓Ev.pure_step, h1.col, h1.indent, In.nextIsZ, ↓Ev.step (h1.nextIs _ _), hy0, ans, hz0,
        show (C == 0) = false by simpa using hC, show ¬ ((C : Int) < I) by omega, Bool.false_eq_true, ↓reduceIte]
      apply Ev.bind (ev_lookahead 2 h1)
      intro u4 h4
      rcases hsplit with rfl | ⟨b, sp, v', rfl, hsp, hv'b, hlen⟩
      · rw [List.append_nil] at h4 ⊢
        apply Ev.bind (ev_word sm w _ str false '\'' rest u4 L C I N hww (Or.inr ⟨rfl, hr⟩) h4)
        intro u5 h5
        apply Ev.bind (ev_lookCh h5)
        intro u6 h6
        -- the closing quote: the loop ends
        simp only [List.headD_cons, beq_self_eq_true, Bool.and_self, Bool.true_or, ↓reduceIte]
        exact Ev.pure _ u6 h6
      · have hbb : isBlank b = true := hsp b (by simp)
        have hv'1 : OneLine v' := fun c hc => hv c (by simp [hc])
        have henc : sqEnc (w ++ (b :: sp ++ v')) = sqEnc w ++ (b :: sp ++ sqEnc v') := by
          rw [sqEnc_append, sqEnc_append, sqEnc_blanks _ hsp]
        rw [henc] at h4
        simp only [List.append_assoc, List.cons_append] at h4
        apply Ev.bind (ev_word sm w _ str false b _ u4 L C I N hww (Or.inl (by simp [isBlankOrBreakz, hbb])) h4)
        intro u5 h5
        apply Ev.bind (ev_lookCh h5)
        intro u6 h6
        have hbq : (b == '\'') = false := by
          cases hq : b == '\''
          · rfl
          · rw [eq_of_beq hq] at hbb; exact absurd hbb (by decide)
        -- a blank, not the closing quote: the blanks are collected
        simp only [↓Ev.getS_step, List.headD_cons, hbq, Bool.false_and, Bool.not_true, Bool.and_false, Bool.or_self, Bool.false_eq_true,
          ↓reduceIte]
        obtain ⟨y, t, hyt, _, hy2, hy1⟩ := enc_head v' rest hv'1
        have hy1' : isBlank y = false := by
          cases hb : isBlank y
          · rfl
          · obtain ⟨t', ht'⟩ := hy1 hb
            rw [hv'b y t' ht'] at hb; exact absurd hb (by decide)
        rw [← List.cons_append, hyt] at h6
        apply Ev.bind (ev_blanks (b :: sp) _ ⟨[], [], []⟩ y t u6 L _ I N hsp hy1' hy2 h6)
        intro u7 h7
        -- no line break among them: they are appended and the loop goes round
        simp only [Bool.false_eq_true, ↓reduceIte, List.nil_append]
        have := ih v'.length hlen v' rfl f (str ++ w ++ (b :: sp)) rest u7 L _ I N hv'1 hr (by omega)
          (by omega) (hyt ▸ h7)
        rw [henc]
        simp only [List.length_append, List.append_assoc] at this ⊢
        rw [show C + ((sqEnc w).length + ((b :: sp).length + (sqEnc v').length)) = C + (sqEnc w).length + (b :: sp).length + (sqEnc v').length by omega]
        exact this

theorem ev_sqLoop (sm : Marker) : ∀ (n : Nat) (v : Str), v.length ≤ n → ∀ (fuel : Nat) (str rest : Str) (u : Sc) (L C : Nat) (I : Int) (N : Nat),
    OneLine v → rest.headD '\x00' ≠ '\'' → C ≠ 0 → I ≤ (C : Int) →
    At u (sqEnc v ++ '\'' :: rest) L C I N →
    Ev (flowScalarLoop true sm fuel str ⟨[], [], []⟩) u (str ++ v)
      (fun u' => At u' ('\'' :: rest) L (C + (sqEnc v).length) I N) :=
  fun _ v _ => ev_sqLine sm v

theorem breakz_not_blank {c : Char} (h : isBreakz c = true) : isBlank c = false ∧ c ≠ '#' := by
  refine ⟨?_, ?_⟩
  · cases hb : isBlank c
    · rfl
    · simp only [isBlank, Bool.or_eq_true, beq_iff_eq] at hb
      rcases hb with rfl | rfl <;> exact absurd h (by decide)
  · rintro rfl; exact absurd h (by decide)

/-- **A whole single-quoted scalar on one line.** The scanner stands at the opening quote; what follows is any
    value without line breaks or NUL written with its quotes doubled, the closing quote, and the end of the line
    (or of the input). The token returned is a single-quoted scalar whose text is exactly that value: `''`
    decoded to one quote, interior blanks kept, every other character — indicators, non-ASCII — unchanged. Its
    span starts at the opening quote and ends just after the closing quote. -/
theorem single_quoted_token (v rest : Str) (hv : OneLine v) (hz : isBreakz (rest.headD '\x00') = true)
    (u : Sc) (L C : Nat) (I : Int) (N : Nat) (hI : I ≤ (C : Int) + 1)
    (h : At u ('\'' :: (sqEnc v ++ '\'' :: rest)) L C I N) :
    EvR (scanFlowScalar true) u (fun tok u' =>
      tok.ty = .scalar .singleQuoted v ∧ tok.span.start = u.mark ∧ tok.span.stop = u'.mark ∧
      At u' rest L (C + 1 + (sqEnc v).length + 1) I N) := by
  have hr : rest.headD '\x00' ≠ '\'' := by
    intro e; rw [e] at hz; exact absurd hz (by decide)
  unfold scanFlowScalar
  apply EvR.getMark_step.mpr
  apply EvR.bindEv (ev_skipNonBlank h)
  intro u1 h1
  apply EvR.getS_bind
  apply EvR.bindEv (ev_sqLoop u.mark v.length v (Nat.le_refl _) _ [] rest u1 L (C + 1) I N hv hr (by omega) (by omega) h1)
  intro u2 h2
  apply EvR.bindEv (ev_skipNonBlank h2)
  intro u3 h3
  apply EvR.bindEv (ev_skipWsToEol (breakz_not_blank hz).1 (breakz_not_blank hz).2 h3)
  intro u4 h4
  -- a break or the end of the input: no trailing content
  simp only [↓EvR.step h4.peek, ↓EvR.getS_step, hz, Bool.or_true, Bool.true_or, Bool.not_true, Bool.false_eq_true, ↓reduceIte,
    List.nil_append]
  exact Or.inr ⟨_, u4, rfl, rfl, rfl, rfl, h4⟩

end SaphyrModel.C04S
