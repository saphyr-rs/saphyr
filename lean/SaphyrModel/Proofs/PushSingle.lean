import SaphyrModel.Proofs.PushPull
/-! Documents and the stream through the push interface. `load(recv, false)` delivers one document per
call; the document loop of `load(recv, true)` and a consumer that keeps calling `load(recv, false)` until
StreamEnd are both that round repeated, so both deliver exactly the events of plain iteration. -/
namespace SaphyrModel

theorem gStep_between {ev : Event} {g' : G} (h : gStep ⟨1, []⟩ ev = some g') :
    (ev = .streamEnd ∧ g' = ⟨2, []⟩) ∨ (isDocumentStart ev = true ∧ g' = ⟨1, [.doc false]⟩) := by
  cases ev <;> simp [gStep, nodeAdv] at h
  case streamEnd => left; exact ⟨rfl, h.symm⟩
  case documentStart => right; exact ⟨rfl, h.symm⟩

theorem gStep_afterNode {ev : Event} {g' : G} (h : gStep ⟨1, [.doc true]⟩ ev = some g') :
    ev = .documentEnd ∧ g' = ⟨1, []⟩ := by
  cases ev <;> simp [gStep, nodeAdv] at h
  exact ⟨rfl, h.symm⟩

theorem gStep_first {ev : Event} {g' : G} (h : gStep ⟨0, []⟩ ev = some g') : ev = .streamStart ∧ g' = ⟨1, []⟩ := by
  cases ev <;> simp [gStep] at h
  exact ⟨rfl, h.symm⟩

theorem clear_noop (a : Api) (h : a.p.anchors = []) : ({ a with p := { a.p with anchors := [] } } : Api) = a := by
  cases a with
  | mk p c e => cases p; simp_all

theorem document_spec (n : Nat) (s : Push) (v : Ev) (hv : isDocumentStart v.1 = true)
    (h : PInv s.api ⟨1, [.doc false]⟩) :
    Fwd n (s.recv v) (fun evs s' => ∃ body vLast, evs = body ++ [vLast] ∧ NoEnd evs ∧ PInv s'.api ⟨1, []⟩ ∧
      phi s'.api.p < phi s.api.p ∧ vLast.1 = .documentEnd) (loadDocument n v s) := by
  unfold loadDocument
  simp only [hv, Bool.not_true, Bool.false_eq_true, ↓reduceIte]
  have hnode := nodeLoop_spec n 0 (s.recv v) ⟨1, [.doc false]⟩ h rfl (Or.inl ⟨rfl, rfl⟩)
  cases hl : loadNodeLoop n 0 (s.recv v) with
  | err e => rw [hl] at hnode; exact hnode
  | panic x => rw [hl] at hnode; exact hnode
  | ok s2 =>
    rw [hl] at hnode
    obtain ⟨evs, hst, hout, hI2, hne, hph2⟩ := hnode
    rcases pull_step hI2 with ⟨e, hn, hp⟩ | ⟨v2, a3, g3, hn, hp, hs, hI3, _, hphi3⟩ <;> simp only [hp]
    · exact ⟨evs, s2.api, hst, hne, hn⟩
    · obtain ⟨hv2, hg3⟩ := gStep_afterNode hs
      have hv2ne : v2.1 ≠ .streamEnd := by rw [hv2]; simp
      simp only [hv2, beq_self_eq_true, ↓reduceIte]
      exact ⟨evs ++ [v2], hst.trans (Steps.one hn), by simp [Push.recv, hout], evs, v2, rfl,
        hne.append (NoEnd.one hv2ne), hg3 ▸ hI3 hv2ne, Nat.lt_trans hphi3 hph2, hv2⟩

/-- what one call of the document loop in single-document mode does, in terms of pulls: it forwards
    StreamEnd, or a run of events without StreamEnd that starts with DocumentStart and ends with DocumentEnd,
    after which the parser is between documents again and strictly closer to the end. That the run is one
    document is not said here: it follows from the grammar of C02 (`PInv` at `⟨1, []⟩` before and after). -/
def Doc1Spec (n : Nat) (s : Push) (r : Res Push) : Prop :=
  match r with
  | .ok s' =>
    (∃ vEnd, nextImpl s.api = .ok (vEnd, s'.api) ∧ vEnd.1 = .streamEnd ∧ s'.out = vEnd :: s.out) ∨
    (∃ evs vLast, Steps s.api (evs ++ [vLast]) s'.api ∧ NoEnd (evs ++ [vLast]) ∧
      s'.out = vLast :: (evs.reverse ++ s.out) ∧ PInv s'.api ⟨1, []⟩ ∧ phi s'.api.p < phi s.api.p ∧
      (∃ v0 rest, evs = v0 :: rest ∧ isDocumentStart v0.1 = true) ∧ vLast.1 = .documentEnd)
  | .err e => ∃ evs a', Steps s.api evs a' ∧ NoEnd evs ∧ nextImpl a' = .err e
  | .panic x => x = .fuel ∧ n ≤ phi s.api.p

theorem doc1_spec (n : Nat) (s : Push) (h : PInv s.api ⟨1, []⟩) : Doc1Spec n s (loadLoop false n s) := by
  cases n with
  | zero => exact ⟨rfl, Nat.zero_le _⟩
  | succ n =>
    rcases pull_step h with ⟨e, hn, hp⟩ | ⟨v, a1, g', hn, hp, hs, hI, hdoc, hphi⟩ <;> simp only [loadLoop, hp]
    · exact ⟨[], s.api, Steps.nil _, NoEnd.nil, hn⟩
    · rcases gStep_between hs with ⟨hv, _⟩ | ⟨hv, hg'⟩
      · simp only [hv, beq_self_eq_true, ↓reduceIte]
        exact Or.inl ⟨v, hn, hv, rfl⟩
      · have hvne : v.1 ≠ .streamEnd := by intro h0; rw [h0] at hv; cases hv
        -- clearing the anchors changes nothing: they are empty right after DocumentStart
        simp only [beq_eq_false_iff_ne.2 hvne, Bool.false_eq_true, ↓reduceIte, clear_noop a1 (hdoc hv)]
        have hd := (document_spec n ⟨a1, s.out⟩ v hv (hg' ▸ hI hvne)).prepend (k := 1) (n0 := n + 1) (s0 := s)
          (s := (⟨a1, s.out⟩ : Push).recv v)
          (Q' := fun evs s' => ∃ body vLast, evs = (v :: body) ++ [vLast] ∧ NoEnd evs ∧ PInv s'.api ⟨1, []⟩ ∧
            phi s'.api.p < phi s.api.p ∧ vLast.1 = .documentEnd)
          (Steps.one hn) (NoEnd.one hvne) rfl hphi (Nat.le_refl _)
          fun evs s' ⟨body, vLast, he, hne, hI', hph, hl⟩ =>
            ⟨body, vLast, by simp [he], hne.cons hvne, hI', Nat.lt_trans hph hphi, hl⟩
        cases hl : loadDocument n v ⟨a1, s.out⟩ with
        | err e => rw [hl] at hd; exact hd
        | panic x => rw [hl] at hd; exact hd
        | ok s' =>
          rw [hl] at hd
          obtain ⟨_, hst, hout, body, vLast, rfl, hne, hI', hph, hl⟩ := hd
          exact Or.inr ⟨v :: body, vLast, hst, hne, by simpa using hout, hI', hph, ⟨v, body, rfl, hv⟩, hl⟩

def ToEnd (evs : List Ev) (_ : Push) : Prop := ∃ pre vEnd, evs = pre ++ [vEnd] ∧ NoEnd pre ∧ vEnd.1 = .streamEnd

theorem ToEnd.prepend {pre evs : List Ev} {s : Push} (hpre : NoEnd pre) (h : ToEnd evs s) : ToEnd (pre ++ evs) s := by
  obtain ⟨p, vEnd, rfl, hp, hv⟩ := h
  exact ⟨pre ++ p, vEnd, by simp, hpre.append hp, hv⟩

theorem sawEnd_of_head {s : Push} {v : Ev} {r : List Ev} (h : s.out = v :: r) : sawEnd s = (v.1 == .streamEnd) := by
  simp [sawEnd, h]

/-- a round of the single-document loop and then, unless it delivered StreamEnd, `rest`: if `rest`
    forwards the stream to its end, so do the two together (`b` bounds the iterations of both) -/
theorem round_spec {n k b : Nat} {s : Push} {rest : Push → Res Push} (h : PInv s.api ⟨1, []⟩)
    (hrest : ∀ s1, PInv s1.api ⟨1, []⟩ → Fwd k s1 ToEnd (rest s1)) (hb1 : b ≤ n) (hb2 : b ≤ k + 1) :
    Fwd b s ToEnd (loadLoop false n s >>= fun s' => if sawEnd s' then .ok s' else rest s') := by
  have hd := doc1_spec n s h
  cases hl : loadLoop false n s with
  | err e => rw [hl] at hd; exact hd
  | panic x => rw [hl] at hd; exact ⟨hd.1, Nat.le_trans hb1 hd.2⟩
  | ok s1 =>
    rw [hl] at hd
    show Fwd b s ToEnd (if sawEnd s1 then .ok s1 else rest s1)
    rcases hd with ⟨vEnd, hn, hv, hout⟩ | ⟨evs, vLast, hst, hne, hout, hI, hphi, _, hvl⟩
    · rw [sawEnd_of_head hout, hv]
      exact ⟨[vEnd], Steps.one hn, by simp [hout], [], vEnd, rfl, NoEnd.nil, hv⟩
    · rw [sawEnd_of_head hout, hvl]
      exact (hrest s1 hI).prepend (k := 1) hst hne (by simp [hout]) hphi hb2 fun _ _ h => h.prepend hne

/-- a loaded document ends with DocumentEnd -/
theorem loadDocument_out {n : Nat} {e : Ev} {s s' : Push} (h : loadDocument n e s = .ok s') : sawEnd s' = false := by
  unfold loadDocument at h
  repeat' split at h
  all_goals cases h
  rename_i hv
  simp [sawEnd, Push.recv, beq_iff_eq.1 hv]

theorem loadLoop_multi (n : Nat) (s : Push) :
    loadLoop true (n + 1) s = loadLoop false (n + 1) s >>= fun s' => if sawEnd s' then .ok s' else loadLoop true n s' := by
  simp only [loadLoop]
  cases s.pull with
  | err e => rfl
  | panic x => rfl
  | ok r =>
    obtain ⟨e, s1⟩ := r
    simp only
    split
    · rename_i he; simp [Bind.bind, sawEnd, Push.recv, he]
    · cases hd : loadDocument n e _ with
      | err e => rfl
      | panic x => rfl
      | ok s' => simp [Bind.bind, loadDocument_out hd]

theorem loop_spec (n : Nat) : ∀ (s : Push), PInv s.api ⟨1, []⟩ → Fwd n s ToEnd (loadLoop true n s) := by
  induction n with
  | zero => intro s _; exact ⟨rfl, Nat.zero_le _⟩
  | succ n ih => intro s h; rw [loadLoop_multi]; exact round_spec h ih (Nat.le_refl _) (Nat.le_refl _)

theorem load_started (multi : Bool) (n : Nat) (s : Push) (h : PInv s.api ⟨1, []⟩) :
    load multi n s = loadLoop multi n s := by
  have hst : s.api.p.state ≠ .streamStart := fun hst => by
    have := h.rel; rw [R, hst] at this; cases this.1
  simp [load, hst]

theorem loadRepeat_succ (c n : Nat) (s : Push) :
    loadRepeat (c + 1) n s = load false n s >>= fun s' => if sawEnd s' then .ok s' else loadRepeat c n s' := by
  conv => lhs; unfold loadRepeat
  cases load false n s <;> rfl

/-- what the consumer of the single-document mode has received when it stops: `c` calls of `n` loop
    iterations each are enough if both exceed the potential -/
theorem repeat_spec (n : Nat) : ∀ (c : Nat) (s : Push), PInv s.api ⟨1, []⟩ → Fwd (min c n) s ToEnd (loadRepeat c n s) := by
  intro c
  induction c with
  | zero => intro s _; exact ⟨rfl, by omega⟩
  | succ c ih =>
    intro s h
    rw [loadRepeat_succ, load_started false n s h]
    exact round_spec h ih (by omega) (by omega)

theorem load_fresh (multi : Bool) (n : Nat) (p0 : PState) (hst : p0.state = .streamStart) (hss : p0.states = [])
    (ha : p0.anchors = []) :
    (∃ e, nextImpl (Api.init p0) = .err e ∧ load multi n ⟨Api.init p0, []⟩ = .err e) ∨
    ∃ v a1, nextImpl (Api.init p0) = .ok (v, a1) ∧ v.1 ≠ .streamEnd ∧ PInv a1 ⟨1, []⟩ ∧ phi a1.p < phi p0 ∧
      load multi n ⟨Api.init p0, []⟩ = loadLoop multi n ⟨a1, [v]⟩ := by
  have hI : PInv (Api.init p0) ⟨0, []⟩ :=
    ⟨by simp [Api.init, R, R', hst, hss], rfl, by simp [Api.init, hst], fun _ => ha⟩
  unfold load
  simp only [Api.init, hst, bne_self_eq_false, Option.isSome_none, Bool.or_self, Bool.not_false, ↓reduceIte]
  rcases pull_step (s := ⟨Api.init p0, []⟩) hI with ⟨e, hn, hp⟩ | ⟨v, a1, g', hn, hp, hs, hI1, _, hphi⟩ <;>
    simp only [Api.init] at hp
  · exact Or.inl ⟨e, hn, by rw [hp]⟩
  · obtain ⟨hv, hg'⟩ := gStep_first hs
    have hvne : v.1 ≠ .streamEnd := by rw [hv]; simp
    exact Or.inr ⟨v, a1, hn, hvne, hg' ▸ hI1 hvne, hphi, by simp [hp, hv, Push.recv]⟩

theorem load_spec (n : Nat) (p0 : PState) (hst : p0.state = .streamStart) (hss : p0.states = []) (ha : p0.anchors = []) :
    Fwd n ⟨Api.init p0, []⟩ ToEnd (load true n ⟨Api.init p0, []⟩) := by
  rcases load_fresh true n p0 hst hss ha with ⟨e, hn, hl⟩ | ⟨v, a1, hn, hv, hI, hphi, hl⟩ <;> rw [hl]
  · exact Fwd.err_now hn
  · exact (loop_spec n _ hI).prepend (k := 1) (s := ⟨a1, [v]⟩) (Steps.one hn) (NoEnd.one hv) rfl hphi
      (Nat.le_succ n) fun _ _ h => h.prepend (NoEnd.one hv)

/-- the consumer of the single-document mode, started on a fresh parser: the first call also forwards
    StreamStart -/
theorem repeat_fresh_spec (c n : Nat) (p0 : PState) (hst : p0.state = .streamStart) (hss : p0.states = [])
    (ha : p0.anchors = []) :
    Fwd (min (c + 1) n) ⟨Api.init p0, []⟩ ToEnd (loadRepeat (c + 1) n ⟨Api.init p0, []⟩) := by
  rw [loadRepeat_succ]
  rcases load_fresh false n p0 hst hss ha with ⟨e, hn, hl⟩ | ⟨v, a1, hn, hv, hI, hphi, hl⟩ <;> rw [hl]
  · exact Fwd.err_now hn
  · exact (round_spec (b := min (c + 1) n) hI (repeat_spec n c) (by omega) (by omega)).prepend (k := 1)
      (s := ⟨a1, [v]⟩) (Steps.one hn) (NoEnd.one hv) rfl hphi (Nat.le_succ _) fun _ _ h => h.prepend (NoEnd.one hv)

theorem iterate_of_fwd {a0 : Api} {b : Nat} (he : a0.endEmitted = false) (hb : phi a0.p < b) {r : Res Push} :
    Fwd b ⟨a0, []⟩ ToEnd r →
    match r with
    | .ok s => ∀ m, iterate (s.out.length + 1 + m) a0 [] = (s.out.reverse, none)
    | .err e => ∃ evs, ∀ m, iterate (evs.length + 1 + m) a0 [] = (evs, some (.err e))
    | .panic _ => False := by
  intro h
  cases r with
  | ok s =>
    obtain ⟨_, hst, hout, pre, vEnd, rfl, hne, hv⟩ := h
    intro m
    have := iterate_of_steps_end hst hne hv he m
    simp only [List.append_nil] at hout
    rw [hout, List.reverse_reverse, List.length_reverse]
    simpa using this
  | err e =>
    obtain ⟨evs, a', hst, hne, herr⟩ := h
    exact ⟨evs, iterate_of_steps_err hst hne herr he⟩
  | panic x => exact absurd h.2 (by show ¬ b ≤ phi a0.p; omega)

end SaphyrModel
