import SaphyrModel.Parser
/-! A text as a word and, unless that is all, a run of separators and the rest: the decomposition on which the loops
for one-line scalars (single-quoted, plain, double-quoted) recurse. -/
namespace SaphyrModel

theorem drop_add_of_append {l a b : Str} {k : Nat} (h : l.drop k = a ++ b) : l.drop (k + a.length) = b := by
  rw [← List.drop_drop, h, List.drop_left]

theorem flatMap_self (f : Char → Str) : ∀ l : Str, (∀ c ∈ l, f c = [c]) → l.flatMap f = l
  | [], _ => rfl
  | c :: l, h => by
    rw [List.flatMap_cons, h c (by simp), flatMap_self f l fun d hd => h d (by simp [hd])]; rfl

theorem dropWhile_head (p : Char → Bool) (r : Str) (c : Char) (t : Str) (h : r.dropWhile p = c :: t) : p c = false := by
  simpa [h] using List.head?_dropWhile_not p r

theorem takeWhile_all (p : Char → Bool) (r : Str) : ∀ c ∈ r.takeWhile p, p c = true :=
  List.all_eq_true.mp List.all_takeWhile

theorem words_split (sep : Char → Bool) (v : Str) :
    ∃ w r, v = w ++ r ∧ (∀ c ∈ w, sep c = false) ∧
      (r = [] ∨ ∃ b sp v', r = b :: sp ++ v' ∧ (∀ c ∈ b :: sp, sep c = true) ∧
        (∀ c t, v' = c :: t → sep c = false) ∧ v'.length < v.length) := by
  refine ⟨v.takeWhile (fun c => !sep c), v.dropWhile (fun c => !sep c), List.takeWhile_append_dropWhile.symm,
    fun c hc => by simpa using takeWhile_all _ v c hc, ?_⟩
  cases hr : v.dropWhile (fun c => !sep c) with
  | nil => exact Or.inl rfl
  | cons b r =>
    have hb : sep b = true := by simpa using dropWhile_head _ v b r hr
    refine Or.inr ⟨b, r.takeWhile sep, r.dropWhile sep, by rw [List.cons_append, List.takeWhile_append_dropWhile], ?_,
      dropWhile_head sep r, ?_⟩
    · intro c hc
      rcases List.mem_cons.mp hc with rfl | hc
      · exact hb
      · exact takeWhile_all sep r c hc
    · have h1 := congrArg List.length (List.takeWhile_append_dropWhile (p := fun c => !sep c) (l := v))
      have h2 := congrArg List.length (List.takeWhile_append_dropWhile (p := sep) (l := r))
      simp only [hr, List.length_append, List.length_cons] at h1 h2
      omega

end SaphyrModel
