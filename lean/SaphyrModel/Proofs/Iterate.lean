import SaphyrModel.Api
/-! Plain iteration without its accumulator, and a pull or a call of `next` with an empty cache read off
`parseStep`. -/
namespace SaphyrModel

theorem nextImpl_eq {a : Api} (hc : a.current = none) :
    nextImpl a = match parseStep a.p with
      | .ok (ev, sp, p') => .ok ((ev, sp), { a with p := p' })
      | .err e => .err e
      | .panic x => .panic x := by
  unfold nextImpl
  split
  · simp_all
  · rfl

theorem nextImpl_current {a : Api} {v : Ev} {a' : Api} (h : nextImpl a = .ok (v, a')) :
    a'.current = none ∧ a'.endEmitted = a.endEmitted := by
  unfold nextImpl at h
  split at h
  · cases h; exact ⟨rfl, rfl⟩
  · rename_i hc
    split at h <;> cases h
    exact ⟨hc, rfl⟩

theorem next_eq {a : Api} (hc : a.current = none) (he : a.endEmitted = false) :
    a.next = match parseStep a.p with
      | .ok (ev, sp, p') => (some (.ok (ev, sp)), ⟨p', none, ev == .streamEnd⟩)
      | .err e => (some (.err e), a)
      | .panic x => (some (.panic x), a) := by
  obtain ⟨p, c, e⟩ := a
  simp only at hc he; subst hc he
  simp only [Api.next, nextImpl, Bool.false_eq_true, ↓reduceIte]
  cases parseStep p with
  | ok o => rfl
  | err e => rfl
  | panic x => rfl

theorem next_done {a : Api} (he : a.endEmitted = true) : a.next = (none, a) := by simp [Api.next, he]

/-- accumulator-free form of `iterate`, for proofs -/
def iterSpec : Nat → Api → List Ev × Option (Res Unit)
  | 0, _ => ([], some (.panic .fuel))
  | fuel + 1, a =>
    match a.next with
    | (none, _) => ([], none)
    | (some (.ok v), a') => (v :: (iterSpec fuel a').1, (iterSpec fuel a').2)
    | (some (.err e), _) => ([], some (.err e))
    | (some (.panic x), _) => ([], some (.panic x))

theorem iterate_eq (fuel : Nat) (a : Api) (acc : List Ev) :
    iterate fuel a acc = (acc.reverse ++ (iterSpec fuel a).1, (iterSpec fuel a).2) := by
  induction fuel generalizing a acc with
  | zero => simp [iterate, iterSpec]
  | succ n ih =>
    simp only [iterate, iterSpec]
    rcases hnx : a.next with ⟨r, a'⟩
    cases r with
    | none => simp
    | some r =>
      cases r with
      | ok v => simp [ih]
      | err e => simp
      | panic x => simp

end SaphyrModel
