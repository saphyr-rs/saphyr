import SaphyrModel.Proofs.ParserSteps
/-! Anchor discipline of the parser (the third clause of C02): ids are handed out as 1, 2, 3, … in
order of occurrence, and an alias always carries an id handed out earlier. At the end, in namespace `C16`,
`lookup_append` for Props/C16. -/
namespace SaphyrModel

def AInv (p : PState) : Prop := 1 ≤ p.anchorId ∧ ∀ x ∈ p.anchors, 1 ≤ x.2 ∧ x.2 < p.anchorId

/-- what an event may do with anchor ids when `n` is the next id to hand out: an alias refers to an
    earlier id; an anchored node takes exactly `n` (and the next id becomes `n + 1`); everything
    else leaves the counter alone -/
def EvSpec (n : Nat) (ev : Event) (n' : Nat) : Prop :=
  match ev with
  | .alias id => 1 ≤ id ∧ id < n ∧ n' = n
  | .scalar _ _ a _ | .sequenceStart a _ | .mappingStart a _ => (a = 0 ∧ n' = n) ∨ (a = n ∧ n' = n + 1)
  | _ => n' = n

def SameAnchors (p q : PState) : Prop := q.anchorId = p.anchorId ∧ (q.anchors = p.anchors ∨ q.anchors = [])

theorem SameAnchors.refl (p : PState) : SameAnchors p p := ⟨rfl, Or.inl rfl⟩
theorem SameAnchors.trans {a b c : PState} (h1 : SameAnchors a b) (h2 : SameAnchors b c) : SameAnchors a c := by
  refine ⟨h2.1.trans h1.1, ?_⟩
  rcases h2.2 with h | h
  · rcases h1.2 with g | g
    · exact Or.inl (h.trans g)
    · exact Or.inr (h.trans g)
  · exact Or.inr h

theorem SameAnchors.ainv {p q : PState} (h : SameAnchors p q) (hp : AInv p) : AInv q := by
  refine ⟨by rw [h.1]; exact hp.1, ?_⟩
  rcases h.2 with g | g
  · rw [g, h.1]; exact hp.2
  · rw [g]; intro x hx; cases hx

def NoAid : Event → Bool
  | .alias _ => false
  | .scalar _ _ a _ | .sequenceStart a _ | .mappingStart a _ => a == 0
  | _ => true

theorem NoAid.spec {ev : Event} (h : NoAid ev = true) (n : Nat) : EvSpec n ev n := by
  cases ev <;> simp_all [NoAid, EvSpec]

theorem Adv.keeps {p q : PState} (h : Adv p q) : SameAnchors p q := ⟨h.anchorId, Or.inl h.anchors⟩

theorem lookup_mem {α} (k : Str) (l : List (Str × α)) (v : α) (h : lookup k l = some v) : (k, v) ∈ l := by
  induction l with
  | nil => simp [lookup] at h
  | cons x r ih =>
    obtain ⟨k', v'⟩ := x
    simp only [lookup] at h
    split at h
    · rename_i hk; simp at h; subst h; subst hk; simp
    · exact List.mem_cons_of_mem _ (ih h)

theorem registerAnchor_ainv (p : PState) (name : Str) (hp : AInv p) : AInv (registerAnchor p name).2 := by
  refine ⟨Nat.le_succ_of_le hp.1, fun x hx => ?_⟩
  rcases List.mem_cons.1 hx with rfl | h
  · exact ⟨hp.1, Nat.lt_succ_self _⟩
  · exact ⟨(hp.2 x h).1, Nat.lt_succ_of_lt (hp.2 x h).2⟩

/-- outcome of a step when `n` was the next id before it: the new state's table is in order and the event
    obeys the discipline. Skipping tokens, setting the state and pushing or popping states change neither
    field that `AInv` reads: the same proofs serve for a state so edited. -/
def AOk (n : Nat) : Res Out → Prop
  | .ok (ev, _, p') => AInv p' ∧ EvSpec n ev p'.anchorId
  | _ => True

theorem AOk.pop {p : PState} {n : Nat} {ev : Event} {sp : Span} {f : PState → PState} (hf : f = id ∨ f = skipTok)
    (h : AInv p ∧ EvSpec n ev p.anchorId) : AOk n (popState p >>= fun q => .ok (ev, sp, f q)) := by
  cases hpop : popState p with
  | err e => trivial
  | panic x => trivial
  | ok q =>
    obtain ⟨_, _, _, rfl⟩ := (popState_sat p).ok hpop
    rcases hf with rfl | rfl <;> exact h

/-- second half of `parse_node`: the anchor id `aid` was decided before, as 0 or as the id just recorded -/
theorem content_spec {p : PState} (b i : Bool) {aid : Nat} (tag : Option Tag) (n : Nat)
    (ha : (aid = 0 ∧ p.anchorId = n) ∨ (aid = n ∧ p.anchorId = n + 1)) (hp : AInv p) :
    AOk n (parseNodeContent p b i aid tag) :=
  parseNodeContent_elim p b i aid tag (fun _ _ => trivial) (fun _ _ _ _ => ⟨hp, ha⟩) (fun _ _ _ _ => ⟨hp, ha⟩)
    fun _ _ _ _ _ hf => AOk.pop hf ⟨hp, ha⟩

/-- **`parse_node` obeys the anchor-id discipline.** -/
theorem parseNode_anch (p : PState) (b i : Bool) (hp : AInv p) : AOk p.anchorId (parseNode p b i) := by
  unfold parseNode
  cases hpk : peekTok p with
  | err e => trivial
  | panic x => trivial
  | ok t =>
    simp only
    split
    · -- alias: the id was found in the table, so it was handed out before
      cases hpop : popState p with
      | err e => trivial
      | panic x => trivial
      | ok q =>
        obtain ⟨_, _, _, rfl⟩ := (popState_sat p).ok hpop
        simp only
        split
        · trivial
        · rename_i id hl
          have := hp.2 _ (lookup_mem _ _ _ hl)
          exact ⟨hp, this.1, this.2, rfl⟩
    · split
      · trivial
      · trivial
      · split
        · split
          · trivial
          · trivial
          · exact content_spec _ _ _ _ (.inr ⟨rfl, rfl⟩) (registerAnchor_ainv _ _ hp)
        · exact content_spec _ _ _ _ (.inr ⟨rfl, rfl⟩) (registerAnchor_ainv _ _ hp)
    · split
      · trivial
      · trivial
      · split
        · trivial
        · trivial
        · split
          · exact content_spec _ _ _ _ (.inr ⟨rfl, rfl⟩) (registerAnchor_ainv _ _ hp)
          · exact content_spec _ _ _ _ (.inl ⟨rfl, rfl⟩) hp
    · exact content_spec _ _ _ _ (.inl ⟨rfl, rfl⟩) hp

end SaphyrModel

namespace SaphyrModel.C16

theorem lookup_append {α : Type} (k : Str) (a b : List (Str × α)) :
    lookup k (a ++ b) = match lookup k a with
      | some v => some v
      | none => lookup k b := by
  induction a with
  | nil => rfl
  | cons x xs ih =>
    obtain ⟨xk, xv⟩ := x
    simp only [List.cons_append, lookup]
    split <;> simp_all

end SaphyrModel.C16
