import SaphyrModel.Proofs.StrEval
/-! C03, anchors and aliases at token level: `&name` / `*name` is scanned to an anchor / alias token carrying
exactly the name — for every name of anchor characters (string input). -/
namespace SaphyrModel.C03A
open SaphyrModel.Sc SaphyrModel.C05T

/-- the name loop: anchor characters are collected up to the first character that is not one -/
theorem ev_anchorGo (tl : Str) (htl : isAnchorChar (tl.headD '\x00') = false) (L : Nat) (I : Int) (N : Nat) :
    ∀ (fuel : Nat) (name str : Str) (u : Sc) (C : Nat), (∀ c ∈ name, isAnchorChar c = true) →
    At u (name ++ tl) L C I N →
    Ev (scanAnchorGo fuel str) u (str ++ name) (fun u' => At u' tl L (C + name.length) I N) := by
  intro fuel
  induction fuel with
  | zero => intro name str u C _ _; exact .inl ⟨_, rfl⟩
  | succ f ih =>
    intro name str u C hn h
    unfold scanAnchorGo
    apply Ev.bind (ev_lookCh h)
    intro u1 h1
    cases name with
    | nil =>
      simp only [List.nil_append, htl, Bool.false_eq_true, ↓reduceIte, List.append_nil, List.length_nil, Nat.add_zero]
      exact Ev.pure _ u1 h1
    | cons c name =>
      simp only [List.cons_append, List.headD_cons, hn c (by simp), ↓reduceIte]
      apply Ev.bind (ev_skipNonBlank h1)
      intro u2 h2
      have := ih name (str ++ [c]) u2 (C + 1) (fun d hd => hn d (by simp [hd])) h2
      rw [List.length_cons, show C + (name.length + 1) = C + 1 + name.length by omega]
      simpa [List.append_assoc] using this

/-- **An anchor or alias token carries exactly the name.** The scanner stands at `&` (or `*`); what follows is
    a non-empty name of anchor characters (anything but blanks, breaks, NUL, BOM and the flow indicators) and then
    a character that is not one (a blank, a break, a flow indicator, the end of the input). The token is an
    anchor (alias) with exactly that name, spanning the indicator and the name. -/
theorem anchor_token (alias : Bool) (ind : Char) (name tl : Str) (hne : name ≠ []) (hn : ∀ c ∈ name, isAnchorChar c = true)
    (htl : isAnchorChar (tl.headD '\x00') = false) (u : Sc) (L C : Nat) (I : Int) (N : Nat)
    (h : At u (ind :: (name ++ tl)) L C I N) :
    EvR (scanAnchor alias) u (fun tok u' =>
      tok.ty = (if alias then TokenType.alias name else TokenType.anchor name) ∧ tok.span.start = u.mark ∧
      tok.span.stop = u'.mark ∧ At u' tl L (C + 1 + name.length) I N) := by
  unfold scanAnchor
  apply EvR.getMark_step.mpr
  apply EvR.bindEv (ev_skipNonBlank h)
  intro u1 h1
  apply EvR.getS_bind
  apply EvR.bindEv (ev_anchorGo tl htl L I N _ name [] u1 (C + 1) hn h1)
  intro u2 h2
  simp only [List.nil_append, List.isEmpty_eq_false_iff.2 hne, Bool.false_eq_true, ↓reduceIte]
  apply EvR.getMark_step.mpr
  exact Or.inr ⟨_, u2, rfl, rfl, rfl, rfl, h2⟩

end SaphyrModel.C03A
