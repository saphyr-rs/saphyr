import SaphyrModel.Resolve
import SaphyrModel.Spec.CoreSchema
/-! Integer parsing: the model of `i64::from_str_radix` against the core-schema recognisers
(used by Props/C08, C09). Both sides are brought to one currency, `digitsVal` followed by the range check `fits`:
`coreArm` for the schema, `early_0x`, `early_0o`, `early_plus` and `fromStrRadix_plus`, `_minus`, `_unsigned` for the
resolver; `resolver_eq_core` compares them shape by shape. -/
namespace SaphyrModel.IntParse
open ProtoR SaphyrModel.Spec

theorem char_le_iff (a b : Char) : a ≤ b ↔ a.toNat ≤ b.toNat := Iff.rfl

theorem isDec_iff (c : Char) : isDec c = true ↔ 48 ≤ c.toNat ∧ c.toNat ≤ 57 := by
  simp only [isDec, Bool.and_eq_true, decide_eq_true_eq, char_le_iff, Char.reduceToNat]
theorem isOct_iff (c : Char) : isOct c = true ↔ 48 ≤ c.toNat ∧ c.toNat ≤ 55 := by
  simp only [isOct, Bool.and_eq_true, decide_eq_true_eq, char_le_iff, Char.reduceToNat]
theorem isHexD_iff (c : Char) : isHexD c = true ↔
    (48 ≤ c.toNat ∧ c.toNat ≤ 57) ∨ (97 ≤ c.toNat ∧ c.toNat ≤ 102) ∨ (65 ≤ c.toNat ∧ c.toNat ≤ 70) := by
  simp only [isHexD, isDec, Bool.or_eq_true, Bool.and_eq_true, decide_eq_true_eq, char_le_iff, Char.reduceToNat, or_assoc]

/-- the digits of a radix up to 16, in the schema's terms -/
def okDigit (radix : Nat) (c : Char) : Bool := isHexD c && decide (hexDigVal c < radix)

/-- Both sides split the code points into the ranges 0-9, a-z, A-Z; the rest is arithmetic. -/
theorem digitVal_eq (c : Char) (radix : Nat) (hr : radix ≤ 16) :
    digitVal c radix = if okDigit radix c then some (hexDigVal c) else none := by
  simp only [digitVal, okDigit, isHexD, isDec, hexDigVal, char_le_iff, Char.reduceToNat, Bool.and_eq_true,
    Bool.or_eq_true, decide_eq_true_eq]
  generalize c.toNat = n
  repeat' split
  all_goals first | rfl | omega | exact if_pos (by omega) | exact if_neg (by omega)

theorem okDigit_iff (radix : Nat) (c : Char) : okDigit radix c = true ↔
    (48 ≤ c.toNat ∧ c.toNat < 48 + radix ∧ c.toNat ≤ 57) ∨ (97 ≤ c.toNat ∧ c.toNat < 87 + radix ∧ c.toNat ≤ 102) ∨
    (65 ≤ c.toNat ∧ c.toNat < 55 + radix ∧ c.toNat ≤ 70) := by
  simp only [okDigit, Bool.and_eq_true, isHexD_iff, decide_eq_true_eq, hexDigVal, isDec_iff, char_le_iff, Char.reduceToNat]
  generalize c.toNat = n
  repeat' split
  all_goals omega

theorem okDigit_ten : okDigit 10 = isDec := by
  funext c; rw [Bool.eq_iff_iff, okDigit_iff, isDec_iff]; omega
theorem okDigit_eight : okDigit 8 = isOct := by
  funext c; rw [Bool.eq_iff_iff, okDigit_iff, isOct_iff]; omega
theorem okDigit_sixteen : okDigit 16 = isHexD := by
  funext c; rw [Bool.eq_iff_iff, okDigit_iff, isHexD_iff]; omega

/-- the digit fold of `from_str_radix`, from any accumulator -/
theorem fold_digits (radix : Nat) (hr : radix ≤ 16) (ds : Str) (acc : Option Nat) :
    ds.foldl (fun a c => a.bind fun v => (digitVal c radix).map fun d => v * radix + d) acc =
      if ds.all (okDigit radix) then acc.map (ds.foldl (fun v c => v * radix + hexDigVal c)) else none := by
  induction ds generalizing acc with
  | nil => simp
  | cons c r ih =>
    rw [List.foldl_cons, ih, digitVal_eq c radix hr, List.all_cons]
    cases acc <;> cases okDigit radix c <;> simp

theorem digitsVal_eq (radix : Nat) (hr : radix ≤ 16) (ds : Str) :
    digitsVal radix ds = if !ds.isEmpty && ds.all (okDigit radix) then some (valBase radix ds) else none := by
  cases ds with
  | nil => rfl
  | cons c r => exact fold_digits radix hr (c :: r) (some 0)

/-- a sign is no digit -/
theorem digitsVal_signed (radix : Nat) (hr : radix ≤ 16) (ds : Str) (h : unsignedDigits ds = false) :
    digitsVal radix ds = none := by
  rw [digitsVal_eq radix hr]
  rcases ds with _ | ⟨c, r⟩
  · rfl
  · have : okDigit radix c = false := by
      simp only [unsignedDigits, List.head?_cons, Bool.and_eq_false_iff, bne_eq_false_iff_eq, Option.some.injEq] at h
      rcases h with rfl | rfl <;> rfl
    rw [List.all_cons, this]; rfl

/-- the 64-bit range; `from_str_radix` tests the magnitude against it, once for each sign -/
def fits (z : Int) : Option Int := if -9223372036854775808 ≤ z ∧ z ≤ 9223372036854775807 then some z else none

theorem fits_pos (v : Nat) : (if v ≤ 9223372036854775807 then some (v : Int) else none) = fits v :=
  ite_cond_congr (propext (by omega))
theorem fits_neg (v : Nat) : (if v ≤ 9223372036854775808 then some (-(v : Int)) else none) = fits (-v) :=
  ite_cond_congr (propext (by omega))

theorem fromStrRadix_plus (radix : Nat) (ds : Str) :
    fromStrRadix ('+' :: ds) radix = (digitsVal radix ds).bind fun v => fits v := by
  simp only [← fits_pos]; cases ds <;> rfl
theorem fromStrRadix_minus (radix : Nat) (ds : Str) :
    fromStrRadix ('-' :: ds) radix = (digitsVal radix ds).bind fun v => fits (-v) := by
  simp only [← fits_neg]; cases ds <;> rfl
theorem fromStrRadix_unsigned (radix : Nat) (ds : Str) (h : unsignedDigits ds = true) :
    fromStrRadix ds radix = (digitsVal radix ds).bind fun v => fits v := by
  simp only [← fits_pos]
  unfold fromStrRadix
  split <;> first | rfl | simp [unsignedDigits] at h

/-- what the resolver does after a `0x`, `0o` or `+`: the guard against a second sign changes nothing -/
theorem guarded (radix : Nat) (hr : radix ≤ 16) (n : Str) :
    (if unsignedDigits n then fromStrRadix n radix else none) = (digitsVal radix n).bind fun v => fits v := by
  cases h : unsignedDigits n
  · rw [digitsVal_signed radix hr n h]; rfl
  · exact fromStrRadix_unsigned radix n h

/-- the prefixed integers `0x…`, `0o…`, `+…` that `parse_from_cow` tries first -/
def early (v : Str) : Option Int :=
  match stripPrefix ['0', 'x'] v with
  | some n => if unsignedDigits n then fromStrRadix n 16 else none
  | none =>
    match stripPrefix ['0', 'o'] v with
    | some n => if unsignedDigits n then fromStrRadix n 8 else none
    | none =>
      match stripPrefix ['+'] v with
      | some n => if unsignedDigits n then fromStrRadix n 10 else none
      | none => none

/-- … and what it does when none of them applies -/
def late (v : Str) : Scalar :=
  let str := String.ofList v
  if str = "~" ∨ str = "null" ∨ str = "NULL" then .null
  else if str = "true" then .bool true
  else if str = "false" then .bool false
  else match fromStrRadix v 10 with
    | some i => .int i
    | none => match parseF64Yaml v with
      | some f => .float f
      | none => .string v

/-- `parse_from_cow` as a decision list: every statement about it starts here -/
theorem parseFromCow_eq (v : Str) : parseFromCow v = match early v with | some i => .int i | none => late v := by
  have hif : ∀ (b : Bool) (o : Option Int), (if b then o.map Scalar.int else none) = (if b then o else none).map Scalar.int := by
    intro b o; cases b <;> rfl
  have hm : ∀ (o : Option Int), (match o.map Scalar.int with | some r => r | none => late v) =
      match o with | some i => .int i | none => late v := by
    intro o; cases o <;> rfl
  unfold parseFromCow early
  simp only [hif]
  cases stripPrefix ['0', 'x'] v <;> cases stripPrefix ['0', 'o'] v <;> cases stripPrefix ['+'] v <;> first | exact hm _ | rfl

theorem parseFromCow_cases (v : Str) {r : Scalar} : parseFromCow v = r →
    match r with
    | .null => String.ofList v = "~" ∨ String.ofList v = "null" ∨ String.ofList v = "NULL"
    | .bool b => String.ofList v = if b then "true" else "false"
    | .int i => (early v).or (fromStrRadix v 10) = some i
    | .float f => parseF64Yaml v = some f
    | .string t => t = v := by
  rw [parseFromCow_eq]
  cases early v with
  | some i => rintro rfl; rfl
  | none =>
    simp only [late]
    intro h
    -- down the list: where it stops, the test just passed is what the result says
    split at h
    · subst h; assumption
    split at h
    · subst h; assumption
    split at h
    · subst h; assumption
    split at h
    · subst h; assumption
    split at h
    · subst h; assumption
    · subst h; rfl

theorem stripPrefix_eq_some_iff {p s n : Str} : stripPrefix p s = some n ↔ s = p ++ n := by
  unfold stripPrefix
  constructor
  · intro h
    split at h
    · rename_i hp
      cases h
      exact (List.prefix_iff_eq_append.mp (List.isPrefixOf_iff_prefix.mp hp)).symm
    · cases h
  · rintro rfl
    simp

theorem parseFromCow_int (v : Str) (i : Int) :
    parseFromCow v = .int i ↔ (early v).or (fromStrRadix v 10) = some i := by
  refine ⟨parseFromCow_cases v, fun h => ?_⟩
  rw [parseFromCow_eq]
  cases he : early v with
  | some j => rw [he] at h; rw [Option.some.inj h]
  | none =>
    rw [he, Option.none_or] at h
    -- the words tested before the integers are no decimal integers, so `v` is none of them
    have hw : ∀ w ∈ ["~", "null", "NULL", "true", "false"], fromStrRadix (String.toList w) 10 = none := by decide +kernel
    have hv : ∀ w ∈ ["~", "null", "NULL", "true", "false"], String.ofList v ≠ w := by
      intro w hm e; have := hw w hm; rw [← e, String.toList_ofList, h] at this; cases this
    simp [late, hv, h]

theorem early_0x (n : Str) : early ('0' :: 'x' :: n) = (digitsVal 16 n).bind fun v => fits v := by
  simp [early, stripPrefix, guarded]
theorem early_0o (n : Str) : early ('0' :: 'o' :: n) = (digitsVal 8 n).bind fun v => fits v := by
  simp [early, stripPrefix, guarded]
theorem early_plus (n : Str) : early ('+' :: n) = (digitsVal 10 n).bind fun v => fits v := by
  simp [early, stripPrefix, guarded]
theorem early_none (v : Str) (hx : ∀ n, v = '0' :: 'x' :: n → False) (ho : ∀ n, v = '0' :: 'o' :: n → False)
    (hp : ∀ n, v = '+' :: n → False) : early v = none := by
  have h : ∀ p : Str, (∀ n, v = p ++ n → False) → stripPrefix p v = none := fun p hp =>
    Option.eq_none_iff_forall_ne_some.2 fun n hn => hp n (stripPrefix_eq_some_iff.1 hn)
  simp [early, h ['0', 'x'] hx, h ['0', 'o'] ho, h ['+'] hp]

/-- an arm of `coreInt` with its range check, in the resolver's currency -/
theorem coreArm (radix : Nat) (hr : radix ≤ 16) (ok : Char → Bool) (hok : okDigit radix = ok) (f : Nat → Int) (ds : Str) :
    (if !ds.isEmpty && ds.all ok then some (f (valBase radix ds)) else none).bind fits =
      (digitsVal radix ds).bind fun v => fits (f v) := by
  rw [digitsVal_eq radix hr, hok]; split <;> rfl

theorem fromStrRadix_ten_bad (b : Char) (n : Str) (hb : isDec b = false) : fromStrRadix ('0' :: b :: n) 10 = none := by
  rw [fromStrRadix_unsigned 10 _ rfl, digitsVal_eq 10 (by omega), okDigit_ten]
  simp [hb]

/-- **The integers the resolver reads are the schema's integers that fit in 64 bits**, text by text. -/
theorem resolver_eq_core (v : Str) : (early v).or (fromStrRadix v 10) = (coreInt v).bind fits := by
  unfold coreInt
  split
  · rw [early_0o, fromStrRadix_ten_bad _ _ rfl, Option.or_none, coreArm 8 (by omega) _ okDigit_eight]
  · rw [early_0x, fromStrRadix_ten_bad _ _ rfl, Option.or_none, coreArm 16 (by omega) _ okDigit_sixteen]
  · rename_i ds
    rw [early_none _ (by simp) (by simp) (by simp), fromStrRadix_minus, Option.none_or,
      coreArm 10 (by omega) _ okDigit_ten fun n => -(n : Int)]
  · rw [early_plus, fromStrRadix_plus, Option.or_self, coreArm 10 (by omega) _ okDigit_ten]
  · rename_i ho hx hm hp
    have hu : unsignedDigits v = true := by
      rcases v with _ | ⟨c, r⟩
      · rfl
      · have h1 : c ≠ '+' := fun e => hp r (by rw [e])
        have h2 : c ≠ '-' := fun e => hm r (by rw [e])
        simp [unsignedDigits, h1, h2]
    rw [early_none _ hx ho hp, fromStrRadix_unsigned 10 v hu, Option.none_or, coreArm 10 (by omega) _ okDigit_ten]

theorem int_iff (v : Str) (i : Int) : parseFromCow v = .int i ↔
    coreInt v = some i ∧ -9223372036854775808 ≤ i ∧ i ≤ 9223372036854775807 := by
  rw [parseFromCow_int, resolver_eq_core, Option.bind_eq_some_iff]
  constructor
  · rintro ⟨z, hz, h⟩
    unfold fits at h
    split at h
    · cases h; exact ⟨hz, ‹_›⟩
    · cases h
  · rintro ⟨h, hb⟩
    exact ⟨i, h, if_pos hb⟩

/-- **Integer soundness.** Whenever the resolver reads an untagged plain scalar as an integer, the text
    is an integer literal of the YAML 1.2 core schema (`[-+]?[0-9]+`, `0o[0-7]+`, `0x[0-9a-fA-F]+`) and
    the value is the one the literal denotes. -/
theorem int_sound (v : Str) (i : Int) (h : parseFromCow v = .int i) : coreInt v = some i :=
  ((int_iff v i).1 h).1

/-- **Integer completeness.** Every integer literal of the core schema whose value fits in 64 bits
    (signed) is read by the resolver as that integer. -/
theorem int_complete (v : Str) (i : Int) (h : coreInt v = some i)
    (hlo : -9223372036854775808 ≤ i) (hhi : i ≤ 9223372036854775807) : parseFromCow v = .int i :=
  (int_iff v i).2 ⟨h, hlo, hhi⟩

end SaphyrModel.IntParse
