import SaphyrModel.Proofs.Run
import SaphyrModel.Proofs.Term
/-! The push interface (`Parser::load`) delivers the events of plain iteration (used by Props/C17). -/
namespace SaphyrModel

/-- anchors are empty wherever a document can start -/
def JAnch (p : PState) : Prop :=
  (p.state = .streamStart ∨ p.state = .implicitDocumentStart ∨ p.state = .documentStart) → p.anchors = []

/-- `d` collections are open above the entry of a document whose root node has begun -/
def Open (d : Nat) (st : List Ctx) : Prop := ∃ cs, st = cs ++ [.doc true] ∧ cs.length = d

/-- the grammar stack while the root node of a document is being read, `d` collections being open: the node
    has not begun, or at least one collection is open -/
def Depth (d : Nat) (st : List Ctx) : Prop := (d = 0 ∧ st = [.doc false]) ∨ (1 ≤ d ∧ Open d st)

theorem R_inside {p : PState} {g : G} (h : R p g) :
    (g.phase = 1 ∧ ∃ d, Depth d g.stack) ∨ p.state = .streamStart ∨ p.state = .implicitDocumentStart ∨
      p.state = .documentStart ∨ p.state = .documentEnd ∨ p.state = .end := by
  -- a state that expects a node: `nodeAdv` only changes the top of the stack
  have hnode : (∃ s, absStack p.states = some s ∧ nodeAdv g.stack = some s) → ∃ d, Depth d g.stack := by
    intro ⟨s, hs, hn⟩
    obtain ⟨pre, rfl⟩ := absStack_last _ _ hs
    cases hst : g.stack with
    | nil => simp [hst, nodeAdv] at hn
    | cons x r =>
      rw [hst] at hn
      obtain ⟨x', hx⟩ := nodeAdv_cons hn
      cases pre with
      | nil =>
        obtain ⟨rfl, rfl⟩ : .doc true = x' ∧ [] = r := by simpa using hx
        cases x <;> (try rename_i b; cases b) <;> simp [nodeAdv] at hn
        exact ⟨0, .inl ⟨rfl, rfl⟩⟩
      | cons y pre =>
        obtain ⟨-, rfl⟩ : y = x' ∧ pre ++ [.doc true] = r := by simpa using hx
        exact ⟨pre.length + 1, .inr ⟨by omega, x :: pre, rfl, rfl⟩⟩
  unfold R R' at h
  split at h
  iterate 5 exact .inr (by simp [*])
  · exact .inl ⟨h.1, hnode h.2⟩
  · exact .inl ⟨h.1, hnode h.2⟩
  · obtain ⟨hph, c, s, hc, hs, hst⟩ := h
    obtain ⟨pre, rfl⟩ := absStack_last _ _ hs
    obtain ⟨x, c, rfl⟩ := List.exists_cons_of_ne_nil (cur_ne_nil hc)
    exact .inl ⟨hph, (x :: c ++ pre).length, .inr ⟨by simp, x :: c ++ pre, by simp [hst], rfl⟩⟩

inductive NodeEv | leaf | start | stop

def nodeEv : Event → Option NodeEv
  | .scalar .. | .alias _ => some .leaf
  | .sequenceStart .. | .mappingStart .. => some .start
  | .sequenceEnd | .mappingEnd => some .stop
  | _ => none

def NodeEv.depth : NodeEv → Nat → Nat
  | .leaf, d => d
  | .start, d => d + 1
  | .stop, d => d - 1

theorem nodeEv_not_end {ev : Event} {k : NodeEv} (h : nodeEv ev = some k) : ev ≠ .streamEnd := by
  intro he; subst he; simp [nodeEv] at h

/-- while the root node is being read only node events come; they move the depth as `NodeEv.depth` says (an
    end finds a collection to close), and the document's entry stays at the bottom -/
theorem gStep_node {d : Nat} {g g' : G} {ev : Event} (hph : g.phase = 1) (ho : Depth d g.stack)
    (h : gStep g ev = some g') :
    ∃ k, nodeEv ev = some k ∧ (k = .stop → 1 ≤ d) ∧ g'.phase = 1 ∧ Open (k.depth d) g'.stack := by
  obtain ⟨_, st⟩ := g
  cases hph
  rcases ho with ⟨rfl, rfl⟩ | ⟨hd, cs, rfl, hl⟩
  · cases ev <;> simp [gStep, nodeAdv] at h <;> subst h
    case alias | scalar => exact ⟨.leaf, rfl, nofun, rfl, [], rfl, rfl⟩
    case sequenceStart | mappingStart => exact ⟨.start, rfl, nofun, rfl, [_], rfl, rfl⟩
  · obtain ⟨c, cs, rfl⟩ : ∃ c cs', cs = c :: cs' := by cases cs <;> simp_all <;> omega
    cases ev <;> simp [gStep] at h
    case alias | scalar =>
      obtain ⟨a, ha, rfl⟩ := h; obtain ⟨c', rfl⟩ := nodeAdv_cons ha
      exact ⟨.leaf, rfl, nofun, rfl, c' :: cs, rfl, hl⟩
    case sequenceStart | mappingStart =>
      obtain ⟨a, ha, rfl⟩ := h; obtain ⟨c', rfl⟩ := nodeAdv_cons ha
      exact ⟨.start, rfl, nofun, rfl, _ :: c' :: cs, rfl, by simp [NodeEv.depth, ← hl]⟩
    case sequenceEnd | mappingEnd =>
      cases c <;> simp at h; subst h
      exact ⟨.stop, rfl, fun _ => hd, rfl, cs, rfl, by simp [NodeEv.depth, ← hl]⟩

structure PInv (a : Api) (g : G) : Prop where
  rel : R a.p g
  cur : a.current = none
  live : a.p.state ≠ .end
  janch : JAnch a.p

theorem pull_step {s : Push} {g : G} (h : PInv s.api g) :
    (∃ e, nextImpl s.api = .err e ∧ s.pull = .err e) ∨
    ∃ v a1 g', nextImpl s.api = .ok (v, a1) ∧ s.pull = .ok (v, { s with api := a1 }) ∧ gStep g v.1 = some g' ∧
      (v.1 ≠ .streamEnd → PInv a1 g') ∧ (isDocumentStart v.1 = true → a1.p.anchors = []) ∧
      phi a1.p < phi s.api.p := by
  have hn := nextImpl_eq h.cur
  rcases parseStep_cases h.rel h.live with ⟨e, hp⟩ | ⟨ev, sp, p', g', hp, hs, hR, hend⟩ <;> rw [hp] at hn
  · exact Or.inl ⟨e, hn, by simp [Push.pull, hn]⟩
  · have hphi : phi p' < phi s.api.p := by have := parseStep_below s.api.p h.live; rwa [hp] at this
    -- the functions that run at a document boundary leave the anchor table empty; the others emit a
    -- node event, after which the grammar is not at a boundary
    have ha : p'.anchors = [] ∨ ((∃ k, nodeEv ev = some k) ∧ g'.stack ≠ []) := by
      unfold parseStep at hp
      rcases R_inside h.rel with ⟨hph, d, hd⟩ | hst | hst | hst | hst | hst
      · obtain ⟨k, hk, _, _, cs, hcs, _⟩ := gStep_node hph hd hs
        exact .inr ⟨⟨k, hk⟩, by simp [hcs]⟩
      · simp only [hst] at hp; exact .inl (((streamStart_anchors _).ok hp).trans (h.janch (.inl hst)))
      · simp only [hst] at hp
        exact .inl (((documentStart_anchors _ _).ok hp).trans (h.janch (.inr (.inl hst))))
      · simp only [hst] at hp
        exact .inl (((documentStart_anchors _ _).ok hp).trans (h.janch (.inr (.inr hst))))
      · simp only [hst] at hp; exact .inl ((documentEnd_clears _).ok hp).1
      · exact absurd hst h.live
    refine Or.inr ⟨(ev, sp), _, g', hn, by simp [Push.pull, hn], hs,
      fun hne => ⟨hR, h.cur, fun he => hne (hend he), fun hb => ?_⟩, fun hd => ?_, hphi⟩
    · rcases ha with ha | ⟨_, hne⟩
      · exact ha
      · unfold R at hR
        rcases hb with hb | hb | hb <;> rw [hb] at hR <;> exact absurd (congrArg G.stack hR.1) hne
    · rcases ha with ha | ⟨⟨k, hk⟩, _⟩
      · exact ha
      · cases ev <;> simp [isDocumentStart] at hd; simp [nodeEv] at hk

inductive Steps : Api → List Ev → Api → Prop
  | nil (a : Api) : Steps a [] a
  | cons {a a1 a' : Api} {v : Ev} {evs : List Ev} :
      nextImpl a = .ok (v, a1) → Steps a1 evs a' → Steps a (v :: evs) a'

theorem Steps.trans {a b c : Api} {e1 e2 : List Ev} (h1 : Steps a e1 b) (h2 : Steps b e2 c) : Steps a (e1 ++ e2) c := by
  induction h1 with
  | nil => simpa using h2
  | cons hn _ ih => exact Steps.cons hn (ih h2)

theorem Steps.one {a a1 : Api} {v : Ev} (h : nextImpl a = .ok (v, a1)) : Steps a [v] a1 := Steps.cons h (Steps.nil _)

theorem Steps.split_last {a b : Api} {es : List Ev} {v : Ev} (h : Steps a (es ++ [v]) b) :
    ∃ a1, Steps a es a1 ∧ nextImpl a1 = .ok (v, b) := by
  induction es generalizing a with
  | nil =>
    cases h with
    | cons hn hrest => cases hrest; exact ⟨a, Steps.nil _, hn⟩
  | cons e es ih =>
    cases h with
    | cons hn hrest =>
      obtain ⟨a1, h1, h2⟩ := ih hrest
      exact ⟨a1, Steps.cons hn h1, h2⟩

def NoEnd (evs : List Ev) : Prop := ∀ v ∈ evs, v.1 ≠ .streamEnd

theorem NoEnd.nil : NoEnd [] := fun _ h => nomatch h
theorem NoEnd.append {a b : List Ev} (ha : NoEnd a) (hb : NoEnd b) : NoEnd (a ++ b) :=
  List.forall_mem_append.2 ⟨ha, hb⟩
theorem NoEnd.cons {v : Ev} {evs : List Ev} (hv : v.1 ≠ .streamEnd) (h : NoEnd evs) : NoEnd (v :: evs) :=
  List.forall_mem_cons.2 ⟨hv, h⟩
theorem NoEnd.one {v : Ev} (hv : v.1 ≠ .streamEnd) : NoEnd [v] := NoEnd.nil.cons hv

/-- outcome of a push loop started in `s` with `n` iterations: it forwarded the pulls `evs` (`Q` says
    which), or stopped at the error the next pull returned, or ran out of iterations -/
def Fwd (n : Nat) (s : Push) (Q : List Ev → Push → Prop) : Res Push → Prop
  | .ok s' => ∃ evs, Steps s.api evs s'.api ∧ s'.out = evs.reverse ++ s.out ∧ Q evs s'
  | .err e => ∃ evs a', Steps s.api evs a' ∧ NoEnd evs ∧ nextImpl a' = .err e
  | .panic x => x = .fuel ∧ n ≤ phi s.api.p

theorem Fwd.err_now {n : Nat} {s : Push} {Q : List Ev → Push → Prop} {e : ScanError} (h : nextImpl s.api = .err e) :
    Fwd n s Q (.err e) := ⟨[], s.api, Steps.nil _, NoEnd.nil, h⟩

/-- what was pulled and forwarded before a loop was entered (`pre`, costing `k` of the potential) is put
    in front of what the loop did -/
theorem Fwd.prepend {n n0 k : Nat} {s0 s : Push} {pre : List Ev} {Q Q' : List Ev → Push → Prop} {r : Res Push}
    (hst : Steps s0.api pre s.api) (hne : NoEnd pre) (hout : s.out = pre.reverse ++ s0.out)
    (hphi : phi s.api.p + k ≤ phi s0.api.p) (hn : n0 ≤ n + k)
    (hQ : ∀ evs s', Q evs s' → Q' (pre ++ evs) s') (h : Fwd n s Q r) : Fwd n0 s0 Q' r := by
  cases r with
  | ok s' =>
    obtain ⟨evs, hs, ho, hq⟩ := h
    exact ⟨pre ++ evs, hst.trans hs, by simp [ho, hout], hQ _ _ hq⟩
  | err e =>
    obtain ⟨evs, a', hs, hn', he⟩ := h
    exact ⟨pre ++ evs, a', hst.trans hs, hne.append hn', he⟩
  | panic x => exact ⟨h.1, by have := h.2; omega⟩

/-- the step equation of `loadNodeLoop` on a node event: the loop ends when no collection is open after it (`hd`: an
    end event at depth 0 is the loop's `unreachable!()`) -/
theorem lnl_step {n d : Nat} {s s1 : Push} {e : Ev} {k : NodeEv} (hp : s.pull = .ok (e, s1))
    (hk : nodeEv e.1 = some k) (hd : k = .stop → 1 ≤ d) :
    loadNodeLoop (n + 1) d s =
      if k.depth d = 0 then .ok (s1.recv e) else loadNodeLoop n (k.depth d) (s1.recv e) := by
  conv => lhs; unfold loadNodeLoop
  simp only [hp]
  cases he : e.1 <;> rw [he] at hk <;> simp [nodeEv] at hk <;> subst hk
  case alias | scalar => rfl
  case sequenceStart | mappingStart => exact (if_neg (Nat.succ_ne_zero d)).symm
  case sequenceEnd | mappingEnd =>
    have := hd rfl
    have h0 : d ≠ 0 := by omega
    by_cases h1 : d = 1
    · simp [h1, NodeEv.depth]
    · have h2 : d - 1 ≠ 0 := by omega
      simp [h0, h1, h2, NodeEv.depth]

theorem nodeLoop_spec (n : Nat) : ∀ (d : Nat) (s : Push) (g : G), PInv s.api g → g.phase = 1 → Depth d g.stack →
    Fwd n s (fun evs s' => PInv s'.api ⟨1, [.doc true]⟩ ∧ NoEnd evs ∧ phi s'.api.p < phi s.api.p)
      (loadNodeLoop n d s) := by
  induction n with
  | zero => intro d s g _ _ _; exact ⟨rfl, Nat.zero_le _⟩
  | succ n ih =>
    intro d s g h hph hd
    rcases pull_step h with ⟨e, hn, hp⟩ | ⟨v, a1, g', hn, hp, hs, hI, _, hphi⟩
    · rw [loadNodeLoop, hp]; exact Fwd.err_now hn
    · obtain ⟨k, hk, hstop, hph', cs, hcs, hl⟩ := gStep_node hph hd hs
      have hI' := hI (nodeEv_not_end hk)
      have hne := NoEnd.one (nodeEv_not_end hk)
      rw [lnl_step hp hk hstop]
      split
      · have hg' : g' = ⟨1, [.doc true]⟩ := by cases g'; cases cs <;> simp_all
        exact ⟨[v], Steps.one hn, rfl, hg' ▸ hI', hne, hphi⟩
      · exact (ih _ _ g' hI' hph' (.inr ⟨by omega, cs, hcs, hl⟩)).prepend (k := 1)
          (s := Push.recv { s with api := a1 } v) (Steps.one hn) hne rfl hphi (Nat.le_refl _)
          fun evs s' ⟨hi, hne', hph⟩ => ⟨hi, hne'.cons (nodeEv_not_end hk), Nat.lt_trans hph hphi⟩

theorem iterSpec_of_steps {a a' : Api} {evs : List Ev} (hs : Steps a evs a') (hne : NoEnd evs)
    (he : a.endEmitted = false) (m : Nat) :
    iterSpec (evs.length + m) a = (evs ++ (iterSpec m a').1, (iterSpec m a').2) ∧ a'.endEmitted = false := by
  induction hs with
  | nil a => simp [he]
  | @cons a a1 a' v evs hn _ ih =>
    obtain ⟨hv, hne'⟩ := List.forall_mem_cons.1 hne
    have hnext : a.next = (some (.ok v), { a1 with endEmitted := false }) := by
      simp [Api.next, he, hn, hv]
    have he1 : a1.endEmitted = false := by
      rw [(nextImpl_current hn).2]; exact he
    have ha1 : ({ a1 with endEmitted := false } : Api) = a1 := by cases a1; simp_all
    rw [ha1] at hnext
    obtain ⟨ih1, ih2⟩ := ih hne' he1
    refine ⟨?_, ih2⟩
    rw [show (v :: evs).length + m = (evs.length + m) + 1 by simp; omega]
    simp only [iterSpec, hnext, ih1, List.cons_append]

theorem iterate_of_steps_end {a0 a' : Api} {evs : List Ev} {vEnd : Ev} (hst : Steps a0 (evs ++ [vEnd]) a')
    (hne : NoEnd evs) (hvend : vEnd.1 = .streamEnd) (he : a0.endEmitted = false) (m : Nat) :
    iterate (evs.length + 2 + m) a0 [] = (evs ++ [vEnd], none) := by
  obtain ⟨a1, hst, hn1⟩ := hst.split_last
  obtain ⟨h1, he1⟩ := iterSpec_of_steps hst hne he (m + 1 + 1)
  have hnext : a1.next = (some (.ok vEnd), { a' with endEmitted := true }) := by
    simp [Api.next, he1, hn1, hvend]
  rw [iterate_eq, show evs.length + 2 + m = evs.length + (m + 1 + 1) by omega, h1]
  simp [iterSpec, hnext, next_done]

theorem iterate_of_steps_err {a0 a' : Api} {evs : List Ev} {e : ScanError} (hst : Steps a0 evs a') (hne : NoEnd evs)
    (herr : nextImpl a' = .err e) (he : a0.endEmitted = false) (m : Nat) :
    iterate (evs.length + 1 + m) a0 [] = (evs, some (.err e)) := by
  obtain ⟨h1, he1⟩ := iterSpec_of_steps hst hne he (m + 1)
  have hnext : a'.next = (some (.err e), a') := by simp [Api.next, he1, herr]
  rw [iterate_eq, show evs.length + 1 + m = evs.length + (m + 1) by omega, h1]
  simp [iterSpec, hnext]

end SaphyrModel
