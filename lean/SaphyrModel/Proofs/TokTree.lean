import SaphyrModel.Api
/-! The token language of node trees and what the parser makes of it (Props/C03, C13; through `Proofs/TokDocs.lean`
and `Proofs/TokLoad.lean` also C15 and C07Tokens).

`TT` is a node tree together with the span of every token that presents it: scalars, flow
sequences `[ a , b ]`, flow mappings `{ k : v , … }`, block sequences `- a` and block mappings
`k : v` in their full forms (every key has its `Key` token, every value its `Value` token). -/
namespace SaphyrModel.TokTree

mutual
inductive TT
  | scalar (sp : Span) (style : ScalarStyle) (v : Str)
  | flowSeq (s e : Span) (items : Items)
  | flowMap (s e : Span) (pairs : Pairs)
  | blockSeq (s e : Span) (items : Items)
  | blockMap (s e : Span) (pairs : Pairs)
/-- items with the span of the separator token in front of each (`,` or `-`) -/
inductive Items
  | nil
  | cons (sep : Span) (t : TT) (rest : Items)
/-- pairs with the spans of `,` (flow only), the `Key` token and the `Value` token -/
inductive Pairs
  | nil
  | cons (sepEntry sepKey : Span) (k : TT) (sepVal : Span) (v : TT) (rest : Pairs)
end

mutual
/-- may occur inside a flow collection -/
def TT.flowOnly : TT → Bool
  | .scalar .. => true
  | .flowSeq _ _ is => is.flowOnly
  | .flowMap _ _ ps => ps.flowOnly
  | .blockSeq .. => false
  | .blockMap .. => false
def Items.flowOnly : Items → Bool
  | .nil => true
  | .cons _ t r => t.flowOnly && r.flowOnly
def Pairs.flowOnly : Pairs → Bool
  | .nil => true
  | .cons _ _ k _ v r => k.flowOnly && v.flowOnly && r.flowOnly
end

mutual
/-- well formed: flow collections contain flow nodes only -/
def TT.wf : TT → Bool
  | .scalar .. => true
  | .flowSeq _ _ is => is.flowOnly && is.wf
  | .flowMap _ _ ps => ps.flowOnly && ps.wf
  | .blockSeq _ _ is => is.wf
  | .blockMap _ _ ps => ps.wf
def Items.wf : Items → Bool
  | .nil => true
  | .cons _ t r => t.wf && r.wf
def Pairs.wf : Pairs → Bool
  | .nil => true
  | .cons _ _ k _ v r => k.wf && v.wf && r.wf
end

mutual
/-- the tokens that present a tree -/
def TT.toks : TT → List Token
  | .scalar sp st v => [⟨sp, .scalar st v⟩]
  | .flowSeq s e is => ⟨s, .flowSequenceStart⟩ :: (is.flowToks true ++ [⟨e, .flowSequenceEnd⟩])
  | .flowMap s e ps => ⟨s, .flowMappingStart⟩ :: (ps.flowToks true ++ [⟨e, .flowMappingEnd⟩])
  | .blockSeq s e is => ⟨s, .blockSequenceStart⟩ :: (is.blockToks ++ [⟨e, .blockEnd⟩])
  | .blockMap s e ps => ⟨s, .blockMappingStart⟩ :: (ps.blockToks ++ [⟨e, .blockEnd⟩])
def Items.flowToks : Bool → Items → List Token
  | _, .nil => []
  | first, .cons sep t r => (if first then [] else [⟨sep, .flowEntry⟩]) ++ t.toks ++ r.flowToks false
def Items.blockToks : Items → List Token
  | .nil => []
  | .cons sep t r => ⟨sep, .blockEntry⟩ :: (t.toks ++ r.blockToks)
def Pairs.flowToks : Bool → Pairs → List Token
  | _, .nil => []
  | first, .cons se sk k sv v r =>
    (if first then [] else [⟨se, .flowEntry⟩]) ++ ⟨sk, .key⟩ :: (k.toks ++ ⟨sv, .value⟩ :: (v.toks ++ r.flowToks false))
def Pairs.blockToks : Pairs → List Token
  | .nil => []
  | .cons _ sk k sv v r => ⟨sk, .key⟩ :: (k.toks ++ ⟨sv, .value⟩ :: (v.toks ++ r.blockToks))
end

mutual
/-- the events a tree denotes (`flatten`), with the spans the parser copies from the tokens -/
def TT.events : TT → List (Event × Span)
  | .scalar sp st v => [(.scalar v st 0 none, sp)]
  | .flowSeq s e is => (.sequenceStart 0 none, s) :: (is.events ++ [(.sequenceEnd, e)])
  | .flowMap s e ps => (.mappingStart 0 none, s) :: (ps.events ++ [(.mappingEnd, e)])
  | .blockSeq s e is => (.sequenceStart 0 none, s) :: (is.events ++ [(.sequenceEnd, e)])
  | .blockMap s e ps => (.mappingStart 0 none, s) :: (ps.events ++ [(.mappingEnd, e)])
def Items.events : Items → List (Event × Span)
  | .nil => []
  | .cons _ t r => t.events ++ r.events
def Pairs.events : Pairs → List (Event × Span)
  | .nil => []
  | .cons _ _ k _ v r => k.events ++ v.events ++ r.events
end

/-- run the state machine for `n` events -/
def steps : Nat → PState → Res (List (Event × Span) × PState)
  | 0, p => .ok ([], p)
  | n + 1, p =>
    match parseStep p with
    | .ok (e, sp, p') =>
      match steps n p' with
      | .ok (es, p'') => .ok ((e, sp) :: es, p'')
      | .err x => .err x
      | .panic x => .panic x
    | .err x => .err x
    | .panic x => .panic x

theorem steps_cons {p p1 p2 : PState} {e : Event} {sp : Span} {n : Nat} {es : List (Event × Span)}
    (h1 : parseStep p = .ok (e, sp, p1)) (h2 : steps n p1 = .ok (es, p2)) :
    steps (n + 1) p = .ok ((e, sp) :: es, p2) := by
  simp only [steps, h1, h2]

theorem steps_one {p p1 : PState} {e : Event} {sp : Span} (h1 : parseStep p = .ok (e, sp, p1)) :
    steps 1 p = .ok ([(e, sp)], p1) := steps_cons h1 rfl

theorem steps_succ_ok {n : Nat} {p p2 : PState} {evs : List (Event × Span)} (h : steps (n + 1) p = .ok (evs, p2)) :
    ∃ e sp p1 es, parseStep p = .ok (e, sp, p1) ∧ steps n p1 = .ok (es, p2) ∧ evs = (e, sp) :: es := by
  simp only [steps] at h
  split at h
  · split at h <;> cases h
    exact ⟨_, _, _, _, ‹_›, ‹_›, rfl⟩
  · cases h
  · cases h

theorem steps_append {a b : Nat} {p pa pb : PState} {ea eb : List (Event × Span)}
    (h1 : steps a p = .ok (ea, pa)) (h2 : steps b pa = .ok (eb, pb)) :
    steps (a + b) p = .ok (ea ++ eb, pb) := by
  induction a generalizing p ea with
  | zero => cases h1; rw [Nat.zero_add]; exact h2
  | succ n ih =>
    obtain ⟨e, sp, p1, es, hs, hr, rfl⟩ := steps_succ_ok h1
    rw [Nat.add_right_comm]
    exact steps_cons hs (ih hr)

/-- the parser state `p` with its control part replaced -/
def at' (p : PState) (toks : List Token) (st : State) (sts : List State) : PState :=
  { p with toks := toks, state := st, states := sts }

@[simp] theorem at_at (p : PState) (a b c d e f) : at' (at' p a b c) d e f = at' p d e f := rfl
@[simp] theorem at_toks (p : PState) (a b c) : (at' p a b c).toks = a := rfl
@[simp] theorem at_state (p : PState) (a b c) : (at' p a b c).state = b := rfl
@[simp] theorem at_states (p : PState) (a b c) : (at' p a b c).states = c := rfl
@[simp] theorem pushState_at (p : PState) (a b c s) : pushState (at' p a b c) s = at' p a b (s :: c) := rfl
@[simp] theorem skipTok_at (p : PState) (t a b c) : skipTok (at' p (t :: a) b c) = at' p a b c := rfl
@[simp] theorem at_withState (p : PState) (a b c s) : { at' p a b c with state := s } = at' p a s c := rfl

/-- token types a node can start with (in this token language) -/
def nodeStart : TokenType → Bool
  | .scalar .. | .flowSequenceStart | .flowMappingStart | .blockSequenceStart | .blockMappingStart => true
  | _ => false

theorem TT.toks_head (t : TT) : ∃ tok tl, t.toks = tok :: tl ∧ nodeStart tok.ty = true := by
  cases t <;> exact ⟨_, _, rfl, rfl⟩

theorem node_scalar (p : PState) (b i : Bool) (sp st v rest bst k ks) :
    parseNode (at' p (⟨sp, .scalar st v⟩ :: rest) bst (k :: ks)) b i =
      .ok (.scalar v st 0 none, sp, at' p rest k ks) := by
  simp [parseNode, peekTok, parseNodeContent, popState, skipTok, at']
theorem node_flowSeq (p : PState) (b i : Bool) (s rest bst sts) :
    parseNode (at' p (⟨s, .flowSequenceStart⟩ :: rest) bst sts) b i =
      .ok (.sequenceStart 0 none, s, at' p (⟨s, .flowSequenceStart⟩ :: rest) .flowSequenceFirstEntry sts) := by
  simp [parseNode, peekTok, parseNodeContent, at']
theorem node_flowMap (p : PState) (b i : Bool) (s rest bst sts) :
    parseNode (at' p (⟨s, .flowMappingStart⟩ :: rest) bst sts) b i =
      .ok (.mappingStart 0 none, s, at' p (⟨s, .flowMappingStart⟩ :: rest) .flowMappingFirstKey sts) := by
  simp [parseNode, peekTok, parseNodeContent, at']
theorem node_blockSeq (p : PState) (i : Bool) (s rest bst sts) :
    parseNode (at' p (⟨s, .blockSequenceStart⟩ :: rest) bst sts) true i =
      .ok (.sequenceStart 0 none, s, at' p (⟨s, .blockSequenceStart⟩ :: rest) .blockSequenceFirstEntry sts) := by
  simp [parseNode, peekTok, parseNodeContent, at']
theorem node_blockMap (p : PState) (i : Bool) (s rest bst sts) :
    parseNode (at' p (⟨s, .blockMappingStart⟩ :: rest) bst sts) true i =
      .ok (.mappingStart 0 none, s, at' p (⟨s, .blockMappingStart⟩ :: rest) .blockMappingFirstKey sts) := by
  simp [parseNode, peekTok, parseNodeContent, at']

macro "dispatch" : tactic => `(tactic|
  simp [TT.toks, parseStep, flowSequenceEntry, flowMappingKey, flowMappingValue, blockSequenceEntry, blockMappingKey,
    blockMappingValue, skipFirst, requireFlowEntry, peekTok, skipTok, popState, pushState, Bind.bind, Pure.pure, at'])

-- `first` is the model's own flag: the state that reads the first entry still has the collection's opening
-- token in front of it, and no separator is owed yet.

theorem fseq_end (p : PState) (first : Bool) (s e rest k ks) :
    parseStep (at' p ((if first then [⟨s, .flowSequenceStart⟩] else []) ++ ⟨e, .flowSequenceEnd⟩ :: rest)
        (if first then .flowSequenceFirstEntry else .flowSequenceEntry) (k :: ks)) =
      .ok (.sequenceEnd, e, at' p rest k ks) := by
  cases first <;> simp [parseStep, flowSequenceEntry, skipFirst, peekTok, skipTok, popState, Bind.bind, Pure.pure, at']
theorem fseq_item (p : PState) (first : Bool) (s sep) (t : TT) (rest sts) :
    parseStep (at' p ((if first then [⟨s, .flowSequenceStart⟩] else []) ++ ((if first then [] else [⟨sep, .flowEntry⟩]) ++ (t.toks ++ rest)))
        (if first then .flowSequenceFirstEntry else .flowSequenceEntry) sts) =
      parseNode (at' p (t.toks ++ rest) (if first then .flowSequenceFirstEntry else .flowSequenceEntry) (.flowSequenceEntry :: sts))
        false false := by
  cases first <;> cases t <;> dispatch

theorem fmap_end (p : PState) (first : Bool) (s e rest k ks) :
    parseStep (at' p ((if first then [⟨s, .flowMappingStart⟩] else []) ++ ⟨e, .flowMappingEnd⟩ :: rest)
        (if first then .flowMappingFirstKey else .flowMappingKey) (k :: ks)) =
      .ok (.mappingEnd, e, at' p rest k ks) := by
  cases first <;> simp [parseStep, flowMappingKey, skipFirst, peekTok, skipTok, popState, Bind.bind, Pure.pure, at']
theorem fmap_key (p : PState) (first : Bool) (s se sk) (t : TT) (rest sts) :
    parseStep (at' p ((if first then [⟨s, .flowMappingStart⟩] else []) ++
          ((if first then [] else [⟨se, .flowEntry⟩]) ++ ⟨sk, .key⟩ :: (t.toks ++ rest)))
        (if first then .flowMappingFirstKey else .flowMappingKey) sts) =
      parseNode (at' p (t.toks ++ rest) (if first then .flowMappingFirstKey else .flowMappingKey) (.flowMappingValue :: sts))
        false false := by
  cases first <;> cases t <;> dispatch
theorem fmap_value (p : PState) (sv) (t : TT) (rest sts) :
    parseStep (at' p (⟨sv, .value⟩ :: (t.toks ++ rest)) .flowMappingValue sts) =
      parseNode (at' p (t.toks ++ rest) .flowMappingValue (.flowMappingKey :: sts)) false false := by
  cases t <;> dispatch

theorem bseq_end (p : PState) (first : Bool) (s e rest k ks) :
    parseStep (at' p ((if first then [⟨s, .blockSequenceStart⟩] else []) ++ ⟨e, .blockEnd⟩ :: rest)
        (if first then .blockSequenceFirstEntry else .blockSequenceEntry) (k :: ks)) =
      .ok (.sequenceEnd, e, at' p rest k ks) := by
  cases first <;> simp [parseStep, blockSequenceEntry, skipFirst, peekTok, skipTok, popState, Bind.bind, Pure.pure, at']
theorem bseq_item (p : PState) (first : Bool) (s sep) (t : TT) (rest sts) :
    parseStep (at' p ((if first then [⟨s, .blockSequenceStart⟩] else []) ++ ⟨sep, .blockEntry⟩ :: (t.toks ++ rest))
        (if first then .blockSequenceFirstEntry else .blockSequenceEntry) sts) =
      parseNode (at' p (t.toks ++ rest) (if first then .blockSequenceFirstEntry else .blockSequenceEntry) (.blockSequenceEntry :: sts))
        true false := by
  cases first <;> cases t <;> dispatch

theorem bmap_end (p : PState) (first : Bool) (s e rest k ks) :
    parseStep (at' p ((if first then [⟨s, .blockMappingStart⟩] else []) ++ ⟨e, .blockEnd⟩ :: rest)
        (if first then .blockMappingFirstKey else .blockMappingKey) (k :: ks)) =
      .ok (.mappingEnd, e, at' p rest k ks) := by
  cases first <;> simp [parseStep, blockMappingKey, skipFirst, peekTok, skipTok, popState, Bind.bind, Pure.pure, at']
theorem bmap_key (p : PState) (first : Bool) (s sk) (t : TT) (rest sts) :
    parseStep (at' p ((if first then [⟨s, .blockMappingStart⟩] else []) ++ ⟨sk, .key⟩ :: (t.toks ++ rest))
        (if first then .blockMappingFirstKey else .blockMappingKey) sts) =
      parseNode (at' p (t.toks ++ rest) (if first then .blockMappingFirstKey else .blockMappingKey) (.blockMappingValue :: sts))
        true true := by
  cases first <;> cases t <;> dispatch
theorem bmap_value (p : PState) (sv) (t : TT) (rest sts) :
    parseStep (at' p (⟨sv, .value⟩ :: (t.toks ++ rest)) .blockMappingValue sts) =
      parseNode (at' p (t.toks ++ rest) .blockMappingValue (.blockMappingKey :: sts)) true true := by
  cases t <;> dispatch

theorem TT.events_pos (t : TT) : 1 ≤ t.events.length := by
  cases t <;> simp [TT.events]

/-- what it means that the parser reads a node: started by `parse_node` on the node's tokens (with
    the continuation `k` on the state stack), the machine emits exactly the node's events and ends
    in state `k` in front of the remaining tokens, nothing else changed -/
def Parses (t : TT) (b : Bool) : Prop :=
  ∀ (p : PState) (i : Bool) (rest : List Token) (bst k : State) (ks : List State),
    ∃ e sp p1 es, parseNode (at' p (t.toks ++ rest) bst (k :: ks)) b i = .ok (e, sp, p1) ∧
      steps (t.events.length - 1) p1 = .ok (es, at' p rest k ks) ∧ (e, sp) :: es = t.events

/-- a node whose first event comes from `parse_node` called by a collection state -/
theorem run_node {t : TT} {b : Bool} (ht : Parses t b) {p0 : PState} (p : PState) (i : Bool)
    (rest : List Token) (bst k : State) (ks : List State)
    (hstep : parseStep p0 = parseNode (at' p (t.toks ++ rest) bst (k :: ks)) b i) :
    steps t.events.length p0 = .ok (t.events, at' p rest k ks) := by
  obtain ⟨e, sp, p1, es, h1, h2, h3⟩ := ht p i rest bst k ks
  have := steps_cons (hstep.trans h1) h2
  have hp := TT.events_pos t
  rw [Nat.sub_add_cancel hp, h3] at this
  exact this

/-- … followed by what the continuation state does in front of the remaining tokens -/
theorem run_node_then {t : TT} {b : Bool} (ht : Parses t b) {p0 p pf : PState} {i : Bool} {rest : List Token}
    {bst k : State} {ks : List State} {n : Nat} {es : List (Event × Span)}
    (hrest : steps n (at' p rest k ks) = .ok (es, pf))
    (hstep : parseStep p0 = parseNode (at' p (t.toks ++ rest) bst (k :: ks)) b i) :
    steps (t.events.length + n) p0 = .ok (t.events ++ es, pf) :=
  steps_append (run_node ht p i rest bst k ks hstep) hrest

mutual
theorem TT.parses (t : TT) (hw : t.wf = true) (b : Bool) (hb : b = true ∨ t.flowOnly = true) : Parses t b := by
  intro p i rest bst k ks
  cases t with
  | scalar sp st v =>
    exact ⟨_, _, _, [], node_scalar p b i sp st v rest bst k ks, rfl, rfl⟩
  | flowSeq s e is =>
    simp only [TT.wf, Bool.and_eq_true] at hw
    refine ⟨_, _, _, _, node_flowSeq p b i s _ bst (k :: ks), ?_, rfl⟩
    have := Items.flowParses is hw.2 hw.1 p true s e rest k ks
    simp only [TT.events, List.length_cons, List.length_append, List.length_nil, Nat.add_sub_cancel]
    simpa [List.append_assoc] using this
  | flowMap s e ps =>
    simp only [TT.wf, Bool.and_eq_true] at hw
    refine ⟨_, _, _, _, node_flowMap p b i s _ bst (k :: ks), ?_, rfl⟩
    have := Pairs.flowParses ps hw.2 hw.1 p true s e rest k ks
    simp only [TT.events, List.length_cons, List.length_append, List.length_nil, Nat.add_sub_cancel]
    simpa [List.append_assoc] using this
  | blockSeq s e is =>
    have hbt : b = true := by rcases hb with h | h; exact h; simp [TT.flowOnly] at h
    subst hbt
    simp only [TT.wf] at hw
    refine ⟨_, _, _, _, node_blockSeq p i s _ bst (k :: ks), ?_, rfl⟩
    have := Items.blockParses is hw p true s e rest k ks
    simp only [TT.events, List.length_cons, List.length_append, List.length_nil, Nat.add_sub_cancel]
    simpa [List.append_assoc] using this
  | blockMap s e ps =>
    have hbt : b = true := by rcases hb with h | h; exact h; simp [TT.flowOnly] at h
    subst hbt
    simp only [TT.wf] at hw
    refine ⟨_, _, _, _, node_blockMap p i s _ bst (k :: ks), ?_, rfl⟩
    have := Pairs.blockParses ps hw p true s e rest k ks
    simp only [TT.events, List.length_cons, List.length_append, List.length_nil, Nat.add_sub_cancel]
    simpa [List.append_assoc] using this

theorem Items.flowParses (is : Items) (hw : is.wf = true) (hf : is.flowOnly = true) (p : PState) (first : Bool)
    (s e : Span) (rest : List Token) (k : State) (ks : List State) :
    steps (is.events.length + 1)
      (at' p ((if first then [⟨s, .flowSequenceStart⟩] else []) ++ (is.flowToks first ++ ⟨e, .flowSequenceEnd⟩ :: rest))
        (if first then .flowSequenceFirstEntry else .flowSequenceEntry) (k :: ks)) =
      .ok (is.events ++ [(.sequenceEnd, e)], at' p rest k ks) := by
  cases is with
  | nil => exact steps_one (fseq_end p first s e rest k ks)
  | cons sep t r =>
    simp only [Items.wf, Items.flowOnly, Bool.and_eq_true] at hw hf
    simp only [Items.events, List.length_append, List.append_assoc, Nat.add_assoc]
    apply run_node_then (TT.parses t hw.1 false (Or.inr hf.1)) (Items.flowParses r hw.2 hf.2 p false s e rest k ks)
    simp only [Bool.false_eq_true, ↓reduceIte, List.nil_append, Items.flowToks, List.append_assoc]
    exact fseq_item p first s sep t _ (k :: ks)

theorem Items.blockParses (is : Items) (hw : is.wf = true) (p : PState) (first : Bool)
    (s e : Span) (rest : List Token) (k : State) (ks : List State) :
    steps (is.events.length + 1)
      (at' p ((if first then [⟨s, .blockSequenceStart⟩] else []) ++ (is.blockToks ++ ⟨e, .blockEnd⟩ :: rest))
        (if first then .blockSequenceFirstEntry else .blockSequenceEntry) (k :: ks)) =
      .ok (is.events ++ [(.sequenceEnd, e)], at' p rest k ks) := by
  cases is with
  | nil => exact steps_one (bseq_end p first s e rest k ks)
  | cons sep t r =>
    simp only [Items.wf, Bool.and_eq_true] at hw
    simp only [Items.events, List.length_append, List.append_assoc, Nat.add_assoc]
    apply run_node_then (TT.parses t hw.1 true (Or.inl rfl)) (Items.blockParses r hw.2 p false s e rest k ks)
    simp only [Bool.false_eq_true, ↓reduceIte, List.nil_append, Items.blockToks, List.cons_append, List.append_assoc]
    exact bseq_item p first s sep t _ (k :: ks)

theorem Pairs.flowParses (ps : Pairs) (hw : ps.wf = true) (hf : ps.flowOnly = true) (p : PState) (first : Bool)
    (s e : Span) (rest : List Token) (k : State) (ks : List State) :
    steps (ps.events.length + 1)
      (at' p ((if first then [⟨s, .flowMappingStart⟩] else []) ++ (ps.flowToks first ++ ⟨e, .flowMappingEnd⟩ :: rest))
        (if first then .flowMappingFirstKey else .flowMappingKey) (k :: ks)) =
      .ok (ps.events ++ [(.mappingEnd, e)], at' p rest k ks) := by
  cases ps with
  | nil => exact steps_one (fmap_end p first s e rest k ks)
  | cons se sk kk sv v r =>
    simp only [Pairs.wf, Pairs.flowOnly, Bool.and_eq_true] at hw hf
    have hval := run_node_then (TT.parses v hw.1.2 false (Or.inr hf.1.2)) (Pairs.flowParses r hw.2 hf.2 p false s e rest k ks)
      (fmap_value p sv v _ (k :: ks))
    simp only [Pairs.events, List.length_append, List.append_assoc, Nat.add_assoc]
    apply run_node_then (TT.parses kk hw.1.1 false (Or.inr hf.1.1)) hval
    simp only [Bool.false_eq_true, ↓reduceIte, List.nil_append, Pairs.flowToks, List.cons_append, List.append_assoc]
    exact fmap_key p first s se sk kk _ (k :: ks)

theorem Pairs.blockParses (ps : Pairs) (hw : ps.wf = true) (p : PState) (first : Bool)
    (s e : Span) (rest : List Token) (k : State) (ks : List State) :
    steps (ps.events.length + 1)
      (at' p ((if first then [⟨s, .blockMappingStart⟩] else []) ++ (ps.blockToks ++ ⟨e, .blockEnd⟩ :: rest))
        (if first then .blockMappingFirstKey else .blockMappingKey) (k :: ks)) =
      .ok (ps.events ++ [(.mappingEnd, e)], at' p rest k ks) := by
  cases ps with
  | nil => exact steps_one (bmap_end p first s e rest k ks)
  | cons se sk kk sv v r =>
    simp only [Pairs.wf, Bool.and_eq_true] at hw
    have hval := run_node_then (TT.parses v hw.1.2 true (Or.inl rfl)) (Pairs.blockParses r hw.2 p false s e rest k ks)
      (bmap_value p sv v _ (k :: ks))
    simp only [Pairs.events, List.length_append, List.append_assoc, Nat.add_assoc]
    apply run_node_then (TT.parses kk hw.1.1 true (Or.inl rfl)) hval
    simp only [Bool.false_eq_true, ↓reduceIte, List.nil_append, Pairs.blockToks, List.cons_append, List.append_assoc]
    exact bmap_key p first s sk kk _ (k :: ks)
end

/-- a whole stream with one bare document presenting `t` -/
def streamToks (ss se : Span) (t : TT) : List Token := ⟨ss, .streamStart⟩ :: (t.toks ++ [⟨se, .streamEnd⟩])

theorem stream_start_step (p : PState) (ss rest sts) :
    parseStep (at' p (⟨ss, .streamStart⟩ :: rest) .streamStart sts) =
      .ok (.streamStart, ss, at' p rest .implicitDocumentStart sts) := by
  simp [parseStep, streamStart, peekTok, skipTok, Bind.bind, at']

theorem implicit_doc_step (p : PState) (tok tl) (h : nodeStart tok.ty = true) :
    parseStep (at' p (tok :: tl) .implicitDocumentStart []) =
      .ok (.documentStart false, tok.span, at' p (tok :: tl) .blockNode [.documentEnd]) := by
  obtain ⟨sp0, ty0⟩ := tok
  cases ty0 <;> simp [nodeStart] at h <;>
    simp [parseStep, documentStart, skipDocEnds, peekTok, processDirectives, directivesLoop, tagsExtend, pushState,
      Bind.bind, at']

end SaphyrModel.TokTree
