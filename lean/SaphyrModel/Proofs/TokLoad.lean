import SaphyrModel.Proofs.TokDocs
import SaphyrModel.Proofs.PushPull
import SaphyrModel.Props.C07
/-! From tokens to loaded documents: the parser theorem for token trees (`TokTree.stream_parses`)
composed with the loader theorem (`C07.fold_document`). -/
namespace SaphyrModel.TokTree

mutual
/-- the abstract event tree a token tree presents (no anchors, no tags) -/
def TT.toE : TT → C07.ETree
  | .scalar sp st v => .scalar v st 0 none sp
  | .flowSeq s e is => .seq 0 none s e is.toEList
  | .flowMap s e ps => .map 0 none s e ps.toEPairs
  | .blockSeq s e is => .seq 0 none s e is.toEList
  | .blockMap s e ps => .map 0 none s e ps.toEPairs
def Items.toEList : Items → List C07.ETree
  | .nil => []
  | .cons _ t r => t.toE :: r.toEList
def Pairs.toEPairs : Pairs → List (C07.ETree × C07.ETree)
  | .nil => []
  | .cons _ _ k _ v r => (k.toE, v.toE) :: r.toEPairs
end

mutual
theorem TT.flatten_toE (t : TT) : C07.flatten t.toE = t.events := by
  cases t with
  | scalar sp st v => rfl
  | flowSeq s e is => simp only [TT.toE, C07.flatten, TT.events, Items.flatten_toE]
  | flowMap s e ps => simp only [TT.toE, C07.flatten, TT.events, Pairs.flatten_toE]
  | blockSeq s e is => simp only [TT.toE, C07.flatten, TT.events, Items.flatten_toE]
  | blockMap s e ps => simp only [TT.toE, C07.flatten, TT.events, Pairs.flatten_toE]
theorem Items.flatten_toE (is : Items) : C07.flattenList is.toEList = is.events := by
  cases is with
  | nil => rfl
  | cons sep t r => simp only [Items.toEList, C07.flattenList, Items.events, TT.flatten_toE, Items.flatten_toE]
theorem Pairs.flatten_toE (ps : Pairs) : C07.flattenPairs ps.toEPairs = ps.events := by
  cases ps with
  | nil => rfl
  | cons se sk k sv v r =>
    simp only [Pairs.toEPairs, C07.flattenPairs, Pairs.events, TT.flatten_toE, Pairs.flatten_toE, List.append_assoc]
end

mutual
theorem TT.events_noEnd (t : TT) : NoEnd t.events := by
  cases t with
  | scalar sp st v => exact NoEnd.one (by simp)
  | flowSeq s e is => exact ((Items.events_noEnd is).append (NoEnd.one (by simp))).cons (by simp)
  | flowMap s e ps => exact ((Pairs.events_noEnd ps).append (NoEnd.one (by simp))).cons (by simp)
  | blockSeq s e is => exact ((Items.events_noEnd is).append (NoEnd.one (by simp))).cons (by simp)
  | blockMap s e ps => exact ((Pairs.events_noEnd ps).append (NoEnd.one (by simp))).cons (by simp)
theorem Items.events_noEnd (is : Items) : NoEnd is.events := by
  cases is with
  | nil => exact NoEnd.nil
  | cons sep t r => exact (TT.events_noEnd t).append (Items.events_noEnd r)
theorem Pairs.events_noEnd (ps : Pairs) : NoEnd ps.events := by
  cases ps with
  | nil => exact NoEnd.nil
  | cons se sk k sv v r => exact ((TT.events_noEnd k).append (TT.events_noEnd v)).append (Pairs.events_noEnd r)
end

/-- `steps` of the state machine are pulls of the driver -/
theorem Steps_of_steps (n : Nat) (p p' : PState) (evs : List Ev) (e : Bool) (h : steps n p = .ok (evs, p')) :
    Steps ⟨p, none, e⟩ evs ⟨p', none, e⟩ := by
  induction n generalizing p evs with
  | zero => cases h; exact Steps.nil _
  | succ n ih =>
    obtain ⟨ev, sp, p1, es, hp, hs, rfl⟩ := steps_succ_ok h
    exact Steps.cons (by simp [nextImpl, hp]) (ih p1 es hs)

/-- **From tokens to loaded documents.** For every well-formed token tree `t`, every loader
    configuration (marked/bare, eager/deferred) and `keep_tags` setting: plain iteration over the
    one-document stream presenting `t` ends normally, and folding its events into the loader yields
    exactly one document — the denotation of `t` (children in order, pairs inserted with the map's
    insert semantics) — with nothing left on the loader's node stack. -/
theorem tokens_load (t : TT) (hw : t.wf = true) (c : LCfg) (ss se : Span) (eof : Marker) (keep : Bool) (m : Nat) :
    let r := iterate (t.events.length + 5 + m) (Api.init (PState.init (streamToks ss se t) none eof keep)) []
    r.2 = none ∧
    ∃ s, foldEvents c {} r.1 = .ok s ∧ s.docs = [(C07.denote c [] t.toE).1] ∧ s.docStack = [] := by
  intro r
  obtain ⟨sp, pf, hsteps, hend, _⟩ := stream_parses t hw ss se eof keep
  let evs0 : List Ev := (.streamStart, ss) :: (.documentStart false, sp) :: (t.events ++ [(.documentEnd, se)])
  have hall : (.streamStart, ss) :: (.documentStart false, sp) :: (t.events ++ [(.documentEnd, se), (.streamEnd, se)]) =
      evs0 ++ [(.streamEnd, se)] := by simp [evs0]
  rw [hall] at hsteps
  have hne0 : NoEnd evs0 :=
    (((TT.events_noEnd t).append (NoEnd.one (by simp))).cons (by simp)).cons (by simp)
  -- the steps of the state machine are pulls, and pulls up to StreamEnd are what iteration returns
  have hiter : r = (evs0 ++ [(.streamEnd, se)], none) := by
    have := iterate_of_steps_end (Steps_of_steps _ _ _ _ false hsteps) hne0 rfl rfl m
    rwa [show evs0.length + 2 + m = t.events.length + 5 + m by simp [evs0]] at this
  refine ⟨by rw [hiter], ?_⟩
  -- the loader side: StreamStart does nothing, the document is `C07.fold_document`, StreamEnd does nothing
  have hfold := C07.fold_document c t.toE {} false sp se rfl
  rw [TT.flatten_toE] at hfold
  rw [hiter, C07.fold_append, show foldEvents c {} evs0 = _ from hfold]
  exact ⟨_, rfl, rfl, rfl⟩

end SaphyrModel.TokTree
