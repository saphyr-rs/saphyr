import SaphyrModel.Proofs.Rel.Indent
import SaphyrModel.Proofs.StrEval
/-! C05 / C14, function level: the content lines of a block scalar — literal or folded, every list of lines, every
spelling of every line break (string input). One round of the content loop is evaluated once (`ev_blockLine`); the
statements about the literal style, about line feeds only, and about folding are its corollaries. -/

namespace SaphyrModel.C05
open SaphyrModel.Sc SaphyrModel.C10

/-- the text of the remaining lines, each indented by `ind` spaces and ended by a line feed, then `tail` -/
def restLines (ind : Nat) : List Str → Str → Str
  | [], tail => tail
  | l :: ls, tail => List.replicate ind ' ' ++ (l ++ '\n' :: restLines ind ls tail)

def joinLines : Str → List Str → Str
  | l, [] => l
  | l, l' :: ls => l ++ '\n' :: joinLines l' ls

/-- a content line: not empty, no break or NUL in it -/
def GoodLine (l : Str) : Prop := l ≠ [] ∧ ∀ c ∈ l, nb c = true

theorem nb_not_break {c : Char} (h : nb c = true) : isBreak c = false ∧ isZ c = false := by
  simp [nb, isBreakz] at h; exact ⟨h.1, h.2⟩

theorem good_head {l : Str} (hl : GoodLine l) (R : Str) :
    ∃ c t, l = c :: t ∧ isBreak c = false ∧ isZ c = false ∧ (l ++ R).headD '\x00' = c := by
  obtain ⟨c, t, rfl⟩ : ∃ c t, l = c :: t := by
    cases l with
    | nil => exact absurd rfl hl.1
    | cons c t => exact ⟨c, t, rfl⟩
  exact ⟨c, t, rfl, (nb_not_break (hl.2 c (by simp))).1, (nb_not_break (hl.2 c (by simp))).2, rfl⟩

end SaphyrModel.C05

namespace SaphyrModel.C14L
open SaphyrModel.C05

/-- the text of the remaining lines, each indented by `ind` spaces and ended by its own break, then `tail` -/
def restLinesB (ind : Nat) : List (Str × Brk) → Str → Str
  | [], tail => tail
  | (l, b) :: ls, tail => List.replicate ind ' ' ++ (l ++ (b.txt ++ restLinesB ind ls tail))

/-- lines joined by line feeds (as `C05.joinLines`, over lines paired with their breaks) -/
def joinB (l : Str) (ls : List (Str × Brk)) : Str := joinLines l (ls.map Prod.fst)

end SaphyrModel.C14L

namespace SaphyrModel.C05F
open SaphyrModel.Sc SaphyrModel.C05

def joinSp : Str → List Str → Str
  | l, [] => l
  | l, l' :: ls => l ++ ' ' :: joinSp l' ls

/-- a content line that takes part in folding: non-empty, free of breaks and NUL, not starting with a blank -/
def FoldLine (l : Str) : Prop := GoodLine l ∧ isBlank (l.headD '\x00') = false

end SaphyrModel.C05F

namespace SaphyrModel.C05T
open SaphyrModel.Sc SaphyrModel.C10 SaphyrModel.C05 SaphyrModel.C14L SaphyrModel.C05F

theorem takeWhile_nb (R : Str) (hR : isBreakz (R.headD '\x00') = true) (l : Str) (hl : ∀ c ∈ l, nb c = true) :
    (l ++ R).takeWhile nb = l ∧ (l ++ R).dropWhile nb = R := by
  have hstop : R.takeWhile nb = [] ∧ R.dropWhile nb = R := by cases R <;> simp_all [nb]
  rw [List.takeWhile_append_of_pos hl, List.dropWhile_append_of_pos hl, hstop.1, hstop.2, List.append_nil]
  exact ⟨rfl, rfl⟩

theorem At.advS {u : Sc} {it : Str} {L C : Nat} {I : Int} {N : Nat} (w : Str) (i : In) (hk : i.kind = .str) (hi : i.iter = it)
    (h : At u (w ++ it) L C I N) : At (advS u w.length i) it L (C + w.length) I N :=
  ⟨hk, hi, h.line, congrArg (· + w.length) h.col, h.indent, h.off_append⟩

theorem ev_contentLine (str l R : Str) (hl : ∀ c ∈ l, nb c = true) (hR : isBreakz (R.headD '\x00') = true)
    {u : Sc} {L C : Nat} {I : Int} {N : Nat} (h : At u (l ++ R) L C I N) :
    Ev (scanBlockScalarContentLine str) u (str ++ l) (fun u' => At u' R L (C + l.length) I N) := by
  obtain ⟨htw, hdw⟩ := takeWhile_nb R hR l hl
  rcases line_str str u h.kind with hp | hok
  · exact Or.inl hp
  · rw [h.iter, htw, hdw] at hok
    exact Ev.ok hok (h.advS l _ h.kind rfl)

theorem spc_replicate : ∀ (n k : Nat) (rest : Str), k ≤ n → (k = n ∨ rest.headD '\x00' ≠ ' ') →
    spc n (List.replicate k ' ' ++ rest) = k := by
  intro n
  induction n with
  | zero => intro k rest hk _; obtain rfl : k = 0 := by omega
            simp [spc]
  | succ n ih =>
    intro k rest hk h
    cases k with
    | zero =>
      rcases h with h | h
      · omega
      · cases rest with
        | nil => simp [spc]
        | cons c r => simp [spc, show (c == ' ') = false by simpa using h]
    | succ k =>
      simp only [List.replicate_succ, List.cons_append, spc, beq_self_eq_true, ↓reduceIte]
      rw [ih k rest (by omega) (h.imp_left fun h => by omega)]

theorem ev_skipIndent (ind f k : Nat) (R : Str) (hle : k ≤ ind) (hstop : k = ind ∨ R.headD '\x00' ≠ ' ')
    (hnb : isBreak (R.headD '\x00') = false) {u : Sc} {L : Nat} {I : Int} {N : Nat}
    (h : At u (List.replicate k ' ' ++ R) L 0 I N) :
    Ev (skipBlockScalarIndent ind (f + 1) []) u [] (fun u' => At u' R L k I N) := by
  rw [indent_unfold]
  rcases part_str ind u h.kind with ⟨p, hp⟩ | ⟨la', hok⟩
  · exact Or.inl ⟨p, bind_panic hp⟩
  · rw [h.col, h.iter, Nat.sub_zero, spc_replicate ind k R hle hstop, List.drop_left' (List.length_replicate ..)] at hok
    have h1 : At (advS u k { u.inp with iter := R, la := la' }) R L k I N := by
      simpa using h.advS (List.replicate k ' ') { u.inp with iter := R, la := la' } h.kind rfl
    have : ans isBreak false R = false := by cases R <;> simp_all [ans]
    -- the spaces are consumed; no break follows: not a blank line
    simp only [↓Ev.step hok, In.nextIsBreak, ↓Ev.step (h1.nextIs _ _), this, Bool.false_eq_true, ↓reduceIte]
    exact Ev.pure _ _ h1

/-- the text in front of the next content line (`tbk`: that line starts with a blank): in a folded scalar a
    single break between two lines that do not start with a blank becomes a space -/
def glue (lit : Bool) (a : BlkAcc) (tbk : Bool) : Str :=
  if !lit && !a.leadingBreak.isEmpty && !a.leadingBlank && !tbk then
    if a.trailingBreaks.isEmpty then a.str ++ a.trailingBreaks ++ [' '] else a.str ++ a.trailingBreaks
  else a.str ++ a.leadingBreak ++ a.trailingBreaks

/-- the accumulator after the content line `l`, its break, and no blank line -/
def lineAcc (lit : Bool) (a : BlkAcc) (l : Str) : BlkAcc :=
  ⟨glue lit a (isBlank (l.headD '\x00')) ++ l, ['\n'], [], isBlank (l.headD '\x00')⟩

/-- **One round of the content loop**: a content line, its break, and the indentation of the line that follows
    (`k` spaces: the content indentation, or fewer in front of something that is not a space) -/
theorem ev_blockLine (lit : Bool) (ind : Nat) (hind : ind ≠ 0) (l : Str) (hl : GoodLine l) (b : Brk) (k : Nat) (R : Str)
    (hle : k ≤ ind) (hstop : k = ind ∨ R.headD '\x00' ≠ ' ') (hnb : isBreak (R.headD '\x00') = false)
    {u : Sc} {L : Nat} {I : Int} {N : Nat} (h : At u (l ++ (b.txt ++ (List.replicate k ' ' ++ R))) L ind I N)
    (fuel : Nat) (a r : BlkAcc) (P : Sc → Prop)
    (hnext : ∀ u', At u' R (L + 1) k I N → Ev (blockScalarLines lit ind fuel (lineAcc lit a l)) u' r P) :
    Ev (blockScalarLines lit ind (fuel + 1) a) u r P := by
  obtain ⟨c0, l0, rfl, hc0, hz0, _⟩ := good_head hl []
  obtain ⟨cb, rb, hbr, hcb⟩ := brk_head b (List.replicate k ' ' ++ R)
  obtain ⟨hcb1, hcb2⟩ : isBreak cb = true ∧ isZ cb = false := by rcases hcb with rfl | rfl <;> decide
  have hRn : (List.replicate k ' ' ++ R).headD '\x00' ≠ '\n' := by
    cases k with
    | zero => intro e; rw [List.replicate_zero, List.nil_append] at e; rw [e] at hnb; exact absurd hnb (by decide)
    | succ k => simp [List.replicate_succ]
  unfold blockScalarLines
  -- in the content column, not at the end of the input, no document marker looked for
  simp only [↓Ev.getS_step, ↓Ev.pure_step, h.col, In.nextIsZ, In.nextIsBlank, ↓Ev.step (h.nextIs _ _), List.cons_append, ans, hz0,
    show (ind == 0) = false by simpa using hind, bne_self_eq_false, Bool.false_eq_true, ↓reduceIte]
  apply Ev.bind (ev_contentLine _ (c0 :: l0) _ hl.2 (by rw [hbr]; simp [isBreakz, hcb1]) h)
  intro u5 h5
  apply Ev.bind (ev_lookahead 2 h5)
  intro u6 h6
  simp only [↓Ev.step (h6.nextIs _ _), hbr, ans, hcb2, Bool.false_eq_true, ↓reduceIte]
  apply Ev.bind (ev_readBreak [] b h6 hRn)
  intro u8 h8
  apply Ev.getS_step.mpr
  apply Ev.bind (ev_skipIndent ind _ k R hle hstop hnb h8)
  intro u9 h9
  exact hnext u9 h9

def linesAcc (lit : Bool) (a : BlkAcc) (l : Str) (ls : List (Str × Brk)) : BlkAcc :=
  (ls.map Prod.fst).foldl (lineAcc lit) (lineAcc lit a l)

/-- **The content lines of a block scalar**, literal or folded, each line ended by its own spelling of a break,
    in front of text that does not start with a space or a break: the loop returns what `linesAcc` says, one line
    further down per line, in column 0 in front of that text -/
theorem ev_blockLines (lit : Bool) (ind : Nat) (hind : ind ≠ 0) (tail : Str) (ht1 : tail.headD '\x00' ≠ ' ')
    (ht2 : isBreak (tail.headD '\x00') = false) :
    ∀ (ls : List (Str × Brk)) (l : Str) (b : Brk) (a : BlkAcc) (u : Sc) (fuel L : Nat) (I : Int) (N : Nat),
      GoodLine l → (∀ p ∈ ls, GoodLine p.1) → At u (l ++ (b.txt ++ restLinesB ind ls tail)) L ind I N →
      Ev (blockScalarLines lit ind fuel a) u (linesAcc lit a l ls) (fun u' => At u' tail (L + ls.length + 1) 0 I N) := by
  intro ls
  induction ls with
  | nil =>
    intro l b a u fuel L I N hl _ h
    cases fuel with
    | zero => exact Or.inl ⟨_, rfl⟩
    | succ f =>
      refine ev_blockLine lit ind hind l hl b 0 tail (Nat.zero_le _) (Or.inr ht1) ht2 h f a _ _ fun u' h' => ?_
      cases f with
      | zero => exact Or.inl ⟨_, rfl⟩
      | succ f =>
        unfold blockScalarLines
        -- column 0 is not the content column: the loop ends
        simp only [↓Ev.getS_step, h'.col, show (0 != ind) = true by simpa using Ne.symm hind, ↓reduceIte]
        exact Ev.pure _ u' h'
  | cons p ls ih =>
    obtain ⟨l', b'⟩ := p
    intro l b a u fuel L I N hl hls h
    cases fuel with
    | zero => exact Or.inl ⟨_, rfl⟩
    | succ f =>
      obtain ⟨c1, l1, _, hc1, _, hh1⟩ := good_head (hls (l', b') (by simp)) (b'.txt ++ restLinesB ind ls tail)
      refine ev_blockLine lit ind hind l hl b ind _ (Nat.le_refl _) (Or.inl rfl) (by rw [hh1]; exact hc1) h f a _ _ fun u' h' => ?_
      have := ih l' b' (lineAcc lit a l) u' f (L + 1) I N (hls (l', b') (by simp)) (fun q hq => hls q (by simp [hq])) h'
      rw [List.length_cons, show L + (ls.length + 1) + 1 = L + 1 + ls.length + 1 by omega]
      exact this

theorem linesAcc_breaks (lit : Bool) : ∀ (ls : List (Str × Brk)) (a : BlkAcc) (l : Str),
    (linesAcc lit a l ls).leadingBreak = ['\n'] ∧ (linesAcc lit a l ls).trailingBreaks = [] := by
  intro ls
  induction ls with
  | nil => intro a l; exact ⟨rfl, rfl⟩
  | cons p ls ih => intro a l; exact ih (lineAcc lit a l) p.1

theorem linesAcc_literal : ∀ (ls : List (Str × Brk)) (a : BlkAcc) (l : Str),
    (linesAcc true a l ls).str = a.str ++ a.leadingBreak ++ a.trailingBreaks ++ joinB l ls := by
  intro ls
  induction ls with
  | nil => intro a l; simp [linesAcc, lineAcc, glue, joinB, joinLines]
  | cons p ls ih =>
    intro a l
    rw [show linesAcc true a l (p :: ls) = linesAcc true (lineAcc true a l) p.1 ls from rfl, ih]
    simp [lineAcc, glue, joinB, joinLines, List.append_assoc]

theorem lineAcc_fold (a : BlkAcc) {l : Str} (hl : FoldLine l) :
    lineAcc false a l = ⟨glue false a false ++ l, ['\n'], [], false⟩ := by
  unfold lineAcc; rw [hl.2]

theorem linesAcc_folded : ∀ (ls : List (Str × Brk)) (a : BlkAcc) (l : Str), FoldLine l → (∀ p ∈ ls, FoldLine p.1) →
    (linesAcc false a l ls).str = glue false a false ++ joinSp l (ls.map Prod.fst) := by
  intro ls
  induction ls with
  | nil => intro a l hl _; rw [linesAcc, List.map_nil, List.foldl_nil, lineAcc_fold a hl]; rfl
  | cons p ls ih =>
    intro a l hl hls
    rw [show linesAcc false a l (p :: ls) = linesAcc false (lineAcc false a l) p.1 ls from rfl,
      ih _ _ (hls p (by simp)) (fun q hq => hls q (by simp [hq])), lineAcc_fold a hl]
    simp [glue, joinSp, List.append_assoc]

end SaphyrModel.C05T

namespace SaphyrModel.C14L
open SaphyrModel.Sc SaphyrModel.C10 SaphyrModel.C05 SaphyrModel.C05T

/-- **The content lines of a literal block scalar do not depend on how their line breaks are spelt.** On a
    string input at the start of a content line (column = content indentation `ind ≥ 1`), in front of that line
    and any number of further lines — each indented by `ind` spaces and ended by a line feed, CR LF or a lone CR,
    chosen line by line — followed by text that does not start with a space or a break, the content loop returns
    the lines joined by *line feeds*, with one pending line feed, and stops in column 0 in front of that text,
    `1 + ls.length` lines further down. Nothing in the result mentions the breaks `b`, `ls[i].2`. -/
theorem literal_lines_any_break (ind : Nat) (hind : ind ≠ 0) (tail : Str) (ht1 : tail.headD '\x00' ≠ ' ')
    (ht2 : isBreak (tail.headD '\x00') = false) :
    ∀ (ls : List (Str × Brk)) (l : Str) (b : Brk) (a : BlkAcc) (s : Sc) (fuel : Nat), GoodLine l → (∀ p ∈ ls, GoodLine p.1) →
      s.inp.kind = .str → s.mark.col = ind → s.inp.iter = l ++ (b.txt ++ restLinesB ind ls tail) →
      (∃ p, blockScalarLines true ind fuel a s = .panic p) ∨
      ∃ s' bl, blockScalarLines true ind fuel a s =
          .ok (⟨a.str ++ a.leadingBreak ++ a.trailingBreaks ++ joinB l ls, ['\n'], [], bl⟩, s') ∧
        s'.inp.kind = .str ∧ s'.inp.iter = tail ∧ s'.mark.col = 0 ∧ s'.mark.line = s.mark.line + ls.length + 1 ∧
        s'.mark.index + tail.length = s.mark.index + s.inp.iter.length := by
  intro ls l b a s fuel hl hls hk hcol hi
  refine (ev_blockLines true ind hind tail ht1 ht2 ls l b a s fuel s.mark.line s.indent _ hl hls
    ⟨hk, hi, rfl, hcol, rfl, by rw [hi]⟩).imp_right fun ⟨s', hok, h'⟩ =>
      ⟨s', (linesAcc true a l ls).leadingBlank, ?_, h'.kind, h'.iter, h'.col, h'.line, h'.off⟩
  rw [hok, ← linesAcc_literal, ← (linesAcc_breaks true ls a l).1, ← (linesAcc_breaks true ls a l).2]

/-- the joined lines contain no carriage return: every break in the decoded text is a line feed -/
theorem joinLines_no_cr : ∀ (ls : List Str) (l : Str), (∀ c ∈ l, nb c = true) → (∀ l' ∈ ls, ∀ c ∈ l', nb c = true) →
    ∀ c ∈ joinLines l ls, c ≠ '\r' := by
  have hline : ∀ l : Str, (∀ c ∈ l, nb c = true) → ∀ c ∈ l, c ≠ '\r' := fun l hl c hc e => by
    have := (nb_not_break (hl c hc)).1
    rw [e] at this; exact absurd this (by decide)
  intro ls
  induction ls with
  | nil => exact fun l hl _ => hline l hl
  | cons l' ls' ih =>
    intro l hl hls c hc
    simp only [joinLines, List.mem_append, List.mem_cons] at hc
    rcases hc with hc | hc | hc
    · exact hline l hl c hc
    · rw [hc]; decide
    · exact ih l' (hls l' (by simp)) (fun x hx => hls x (by simp [hx])) c hc

end SaphyrModel.C14L

namespace SaphyrModel.C05
open SaphyrModel SaphyrModel.Sc SaphyrModel.C10 SaphyrModel.C14L SaphyrModel.C05T

theorem restLines_eq (ind : Nat) (tail : Str) : ∀ ls : List Str, restLines ind ls tail = restLinesB ind (ls.map (·, Brk.lf)) tail := by
  intro ls
  induction ls with
  | nil => rfl
  | cons l ls ih => simp [restLines, restLinesB, ih, Brk.txt]

/-- **The content lines of a literal block scalar are read verbatim.** On a string input at the start of a
    content line (column = content indentation `ind ≥ 1`), in front of that line and any number of further
    lines — each indented by `ind` spaces and ended by a line feed — followed by text that does not start with
    a space or a break (a less indented line, or the end of the input), the content loop returns the lines joined
    by line feeds (appended to what was accumulated), with one pending line feed and no trailing breaks, and
    stops in column 0 in front of that text. -/
theorem literal_lines (ind : Nat) (hind : ind ≠ 0) (tail : Str) (ht1 : tail.headD '\x00' ≠ ' ')
    (ht2 : isBreak (tail.headD '\x00') = false) :
    ∀ (ls : List Str) (l : Str) (a : BlkAcc) (s : Sc) (fuel : Nat), GoodLine l → (∀ l' ∈ ls, GoodLine l') →
      s.inp.kind = .str → s.mark.col = ind → s.inp.iter = l ++ '\n' :: restLines ind ls tail →
      (∃ p, blockScalarLines true ind fuel a s = .panic p) ∨
      ∃ s' b, blockScalarLines true ind fuel a s =
          .ok (⟨a.str ++ a.leadingBreak ++ a.trailingBreaks ++ joinLines l ls, ['\n'], [], b⟩, s') ∧
        s'.inp.kind = .str ∧ s'.inp.iter = tail ∧ s'.mark.col = 0 := by
  intro ls l a s fuel hl hls hk hcol hi
  have := literal_lines_any_break ind hind tail ht1 ht2 (ls.map (·, Brk.lf)) l .lf a s fuel hl (by simpa using hls) hk hcol
    (by rw [hi, restLines_eq]; rfl)
  simp only [joinB, List.map_map, Function.comp_def, List.map_id'] at this
  exact this.imp_right fun ⟨s', bl, hok, h1, h2, h3, _⟩ => ⟨s', bl, hok, h1, h2, h3⟩

/-- chomping after the content lines (no trailing blank lines, the loop stopped in column 0): strip drops the
    final break, clip and keep keep exactly one -/
theorem literal_chomping (chomping : Chomping) (ind : Nat) (content : Str) (b : Bool) (s : Sc) (hk : s.inp.kind = .str)
    (hcol : s.mark.col = 0) :
    blockFinish chomping ind ⟨content, ['\n'], [], b⟩ s s =
      .ok ((match chomping with | .strip => content | _ => content ++ ['\n']), s) := by
  have hcol' : decide (s.mark.col ≥ max ind 1) = false := by
    simp [hcol]
  cases chomping <;>
    simp [blockFinish, Bind.bind, Pure.pure, show In.nextIsZ = In.nextIs isZ true from rfl, nextIs_eq hk, hcol']

end SaphyrModel.C05
