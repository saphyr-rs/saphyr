import SaphyrModel.Grammar
import SaphyrModel.Proofs.ParserSteps
/-! C02, one step: every transition of the 22-state parser is a transition of the event-grammar automaton of
`Grammar.lean` between related states (`R`), and the `unwrap()` in `pop_state` cannot fail: `parseStep_good`. The
relation reads the state and the stack of continuation states as the automaton's stack of open contexts (`absStack`). -/
namespace SaphyrModel

theorem absStack_cons {k : State} {r : List State} {s : List Ctx} (h : absStack (k :: r) = some s) :
    (k = .documentEnd ∧ r = [] ∧ s = [.doc true]) ∨
    (∃ a b, cur k = some a ∧ absStack r = some b ∧ s = a ++ b) := by
  unfold absStack at h
  split at h
  · rename_i hc; left; exact ⟨hc.1, hc.2, by simpa using h.symm⟩
  · right
    split at h
    · rename_i a b ha hb; exact ⟨a, b, ha, hb, by simpa using h.symm⟩
    · simp at h

theorem absStack_last : ∀ (sts : List State) (s : List Ctx), absStack sts = some s → ∃ pre, s = pre ++ [.doc true]
  | [], s, h => by simp [absStack] at h
  | k :: r, s, h => by
    rcases absStack_cons h with ⟨_, _, hs⟩ | ⟨a, b, _, hb, hs⟩
    · exact ⟨[], by simp [hs]⟩
    · obtain ⟨pre, hp⟩ := absStack_last r b hb
      exact ⟨a ++ pre, by simp [hs, hp]⟩

theorem cur_ne_nil {K : State} {c : List Ctx} (h : cur K = some c) : c ≠ [] := by
  rintro rfl; cases K <;> cases h

theorem nodeAdv_cons {x : Ctx} {r s : List Ctx} (h : nodeAdv (x :: r) = some s) : ∃ x', s = x' :: r := by
  cases x <;> (try rename_i b; cases b) <;> simp [nodeAdv] at h <;> exact ⟨_, h.symm⟩

theorem R'_coll {K : State} {c : List Ctx} (hK : cur K = some c) (sts : List State) (g : G) :
    R' K sts g ↔ ∃ s, absStack sts = some s ∧ g = ⟨1, c ++ s⟩ := by
  have h : (g.phase = 1 ∧ ∃ c' s, cur K = some c' ∧ absStack sts = some s ∧ g.stack = c' ++ s) ↔
      ∃ s, absStack sts = some s ∧ g = ⟨1, c ++ s⟩ := by
    obtain ⟨ph, st⟩ := g
    simp [hK, and_left_comm]
  -- `h` is the last case of `R'`; the states of the other cases read no collection
  cases K <;> first | exact h | cases hK

theorem popState_R {p : PState} {s : List Ctx} (h : absStack p.states = some s) :
    ∃ p', popState p = .ok p' ∧ R p' ⟨1, s⟩ := by
  unfold popState
  cases hs : p.states with
  | nil => rw [hs] at h; simp [absStack] at h
  | cons k r =>
    rw [hs] at h
    refine ⟨_, rfl, ?_⟩
    rcases absStack_cons h with ⟨rfl, rfl, rfl⟩ | ⟨a, b, ha, hb, rfl⟩
    · exact ⟨rfl, rfl⟩
    · exact (R'_coll ha _ _).2 ⟨b, hb, rfl⟩

def Good (g : G) (r : Res Out) : Prop :=
  match r with
  | .ok (ev, _, p') => ∃ g', gStep g ev = some g' ∧ R p' g'
  | .err _ => True
  | .panic _ => False

theorem Good_bind {α} {g : G} {m : Res α} {f : α → Res Out}
    (hnp : ∀ x, m ≠ .panic x) (h : ∀ a, m = .ok a → Good g (f a)) : Good g (m >>= f) := by
  cases hm : m with
  | ok a => exact h a hm
  | err e => trivial
  | panic x => exact absurd hm (hnp x)

theorem Good.bind {α : Type} {g : G} {C : α → Prop} {E : ScanError → Prop} {m : Res α} {f : α → Res Out}
    (hm : m.Sat C E False) (hf : ∀ a, C a → Good g (f a)) : Good g (m >>= f) :=
  Good_bind hm.noPanic fun a h => hf a (hm.ok h)

theorem Good_bind_peek {g : G} {p : PState} {f : Token → Res Out}
    (h : ∀ t, peekTok p = .ok t → Good g (f t)) : Good g (peekTok p >>= f) :=
  Good_bind (peekTok_np p) h

theorem Good.pop {p : PState} {gs s : List Ctx} {ev : Event} {sp : Span} {f : PState → PState}
    (hf : f = id ∨ f = skipTok) (hs : absStack p.states = some s) (hev : gStep ⟨1, gs⟩ ev = some ⟨1, s⟩) :
    Good ⟨1, gs⟩ (popState p >>= fun q => .ok (ev, sp, f q)) := by
  obtain ⟨p', hp, hR⟩ := popState_R hs
  rw [hp]
  rcases hf with rfl | rfl <;> exact ⟨_, hev, hR⟩

theorem Good.stay {q : PState} {s c gs : List Ctx} {ev : Event} {sp : Span} {K : State} (hK : cur K = some c)
    (hs : absStack q.states = some s) (hev : gStep ⟨1, gs⟩ ev = some ⟨1, c ++ s⟩) :
    Good ⟨1, gs⟩ (.ok (ev, sp, { q with state := K })) :=
  ⟨_, hev, (R'_coll hK _ _).2 ⟨s, hs, rfl⟩⟩

theorem parseNodeContent_good {p : PState} {gs s : List Ctx} (b i : Bool) (aid : Nat) (tag : Option Tag)
    (hs : absStack p.states = some s) (hg : nodeAdv gs = some s) :
    Good ⟨1, gs⟩ (parseNodeContent p b i aid tag) := by
  refine parseNodeContent_elim p b i aid tag (fun _ _ => trivial) (fun t K _ hK => ?_) (fun t K _ hK => ?_)
    fun t v st f _ hf => Good.pop hf hs (by simp [gStep, hg])
  · exact Good.stay (c := [.seq]) (by rcases hK with rfl | rfl | rfl <;> rfl) hs (by simp [gStep, hg])
  · exact Good.stay (c := [.mapK]) (by rcases hK with rfl | rfl <;> rfl) hs (by simp [gStep, hg])

theorem parseNode_good {p : PState} {gs s : List Ctx} (b i : Bool)
    (hs : absStack p.states = some s) (hg : nodeAdv gs = some s) :
    Good ⟨1, gs⟩ (parseNode p b i) := by
  unfold parseNode
  cases hp : peekTok p with
  | err e => trivial
  | panic x => exact absurd hp (peekTok_np p x)
  | ok t =>
    simp only
    have hc : ∀ (q : PState) aid tag, q.states = p.states → Good ⟨1, gs⟩ (parseNodeContent q b i aid tag) :=
      fun q aid tag hq => parseNodeContent_good b i aid tag (hq ▸ hs) hg
    split
    · obtain ⟨p', hpop, hR⟩ := popState_R hs
      simp only [hpop]
      split
      · trivial
      · exact ⟨_, by simp [gStep, hg], hR⟩
    · split
      · trivial
      · exact absurd ‹_› (peekTok_np _ _)
      · split
        · split
          · trivial
          · exact absurd ‹_› (resolveTag_ok _)
          · exact hc _ _ _ rfl
        · exact hc _ _ _ rfl
    · split
      · trivial
      · exact absurd ‹_› (resolveTag_ok _)
      · split
        · trivial
        · exact absurd ‹_› (peekTok_np _ _)
        · split
          · exact hc _ _ _ rfl
          · exact hc _ _ _ rfl
    · exact hc _ _ _ rfl

theorem streamStart_good {p : PState} (hst : p.states = []) : Good ⟨0, []⟩ (streamStart p) := by
  unfold streamStart
  apply Good_bind_peek; intro t _
  split
  · simp [Good, gStep, R, R', hst]
  · trivial

theorem explicitDocumentStart_good {p : PState} (hst : p.states = []) :
    Good ⟨1, []⟩ (explicitDocumentStart p) := by
  unfold explicitDocumentStart
  refine Good.bind (processDirectives_adv _ p false) fun q hq => ?_
  apply Good_bind_peek; intro t _
  split
  · simp [Good, gStep, R, R', absStack, nodeAdv, hq.states, hst]
  · trivial

theorem documentStart_good {p : PState} (implicit : Bool) (hst : p.states = []) :
    Good ⟨1, []⟩ (documentStart p implicit) := by
  unfold documentStart
  refine Good.bind (skipDocEnds_adv _ p) fun q hq => ?_
  have hq0 : q.states = [] := hq.states.trans hst
  apply Good_bind_peek; intro t _
  split
  · simp [Good, gStep, R, R']
  · exact explicitDocumentStart_good hq0
  · exact explicitDocumentStart_good hq0
  · exact explicitDocumentStart_good hq0
  · split
    · refine Good.bind (processDirectives_adv _ q false) fun q2 hq2 => ?_
      simp [Good, gStep, R, R', absStack, nodeAdv, hq2.states, hq0]
    · exact explicitDocumentStart_good hq0

theorem Good.node {p : PState} {s a gs : List Ctx} {K : State} {b i : Bool} (hK : cur K = some a)
    (hs : absStack p.states = some s) (hg : nodeAdv gs = some (a ++ s)) :
    Good ⟨1, gs⟩ (parseNode (pushState p K) b i) := by
  refine parseNode_good _ _ ?_ hg
  have hne : K ≠ .documentEnd := by intro h; subst h; simp [cur] at hK
  simp [absStack, hne, hK, hs]

theorem documentContent_good {p : PState} {gs s : List Ctx}
    (hs : absStack p.states = some s) (hg : nodeAdv gs = some s) :
    Good ⟨1, gs⟩ (documentContent p) := by
  unfold documentContent
  apply Good_bind_peek; intro t _
  split
  iterate 5 exact Good.pop (.inl rfl) hs (by simp [gStep, emptyScalar, hg])
  exact parseNode_good _ _ hs hg

theorem documentEnd_good {p : PState} (hst : p.states = []) :
    Good ⟨1, [.doc true]⟩ (documentEnd p) := by
  unfold documentEnd
  apply Good_bind_peek; intro t _
  split
  · simp [Good, gStep, R, R', hst]
  · apply Good_bind_peek; intro t2 _
    split
    · trivial
    · trivial
    · simp [Good, gStep, R, R', hst]

theorem blockMappingKey_good {p : PState} {s : List Ctx} (first : Bool)
    (hs : absStack p.states = some s) : Good ⟨1, .mapK :: s⟩ (blockMappingKey p first) := by
  unfold blockMappingKey
  refine Good.bind (skipFirst_adv first p) fun q hq => ?_
  have hs' : absStack q.states = some s := hq.states ▸ hs
  apply Good_bind_peek; intro t _
  split
  · apply Good_bind_peek; intro t2 _
    split
    iterate 3 exact Good.stay rfl hs' rfl
    exact Good.node rfl hs' rfl
  · exact Good.stay rfl hs' rfl
  · exact Good.pop (.inr rfl) hs' rfl
  · trivial

theorem blockMappingValue_good {p : PState} {s : List Ctx}
    (hs : absStack p.states = some s) : Good ⟨1, .mapV :: s⟩ (blockMappingValue p) := by
  unfold blockMappingValue
  apply Good_bind_peek; intro t _
  split
  · apply Good_bind_peek; intro t2 _
    split
    iterate 3 exact Good.stay rfl hs rfl
    exact Good.node rfl hs rfl
  · exact Good.stay rfl hs rfl

theorem flowMappingKey_good {p : PState} {s : List Ctx} (first : Bool)
    (hs : absStack p.states = some s) : Good ⟨1, .mapK :: s⟩ (flowMappingKey p first) := by
  unfold flowMappingKey
  refine Good.bind (skipFirst_adv first p) fun q hq => ?_
  have hs' : absStack q.states = some s := hq.states ▸ hs
  refine Good.bind (peekTok_adv q) fun t ht => ?_
  split
  · exact Good.pop (.inr rfl) hs' rfl
  · refine Good.bind (requireFlowEntry_adv first t _ q ht) fun q2 hq2 => ?_
    have hs2 : absStack q2.states = some s := hq2.states ▸ hs'
    apply Good_bind_peek; intro t2 _
    split
    · apply Good_bind_peek; intro t3 _
      split
      iterate 3 exact Good.stay rfl hs2 rfl
      exact Good.node rfl hs2 rfl
    · exact Good.stay rfl hs2 rfl
    · exact Good.pop (.inr rfl) hs2 rfl
    · exact Good.node rfl hs2 rfl

theorem flowMappingValue_good {p : PState} {s : List Ctx} (empty : Bool)
    (hs : absStack p.states = some s) : Good ⟨1, .mapV :: s⟩ (flowMappingValue p empty) := by
  unfold flowMappingValue
  apply Good_bind_peek; intro t _
  split
  · exact Good.stay rfl hs rfl
  · split
    · apply Good_bind_peek; intro t2 _
      split
      iterate 2 exact Good.stay rfl hs rfl
      exact Good.node rfl hs rfl
    · exact Good.stay rfl hs rfl

theorem flowSequenceEntry_good {p : PState} {s : List Ctx} (first : Bool)
    (hs : absStack p.states = some s) : Good ⟨1, .seq :: s⟩ (flowSequenceEntry p first) := by
  unfold flowSequenceEntry
  refine Good.bind (skipFirst_adv first p) fun q hq => ?_
  have hs' : absStack q.states = some s := hq.states ▸ hs
  refine Good.bind (peekTok_adv q) fun t ht => ?_
  split
  · exact Good.pop (.inr rfl) hs' rfl
  · refine Good.bind (requireFlowEntry_adv first t _ q ht) fun q2 hq2 => ?_
    have hs2 : absStack q2.states = some s := hq2.states ▸ hs'
    apply Good_bind_peek; intro t2 _
    split
    · exact Good.pop (.inr rfl) hs2 rfl
    · exact Good.stay (q := skipTok q2) rfl hs2 rfl
    · exact Good.node rfl hs2 rfl

theorem indentlessSequenceEntry_good {p : PState} {s : List Ctx}
    (hs : absStack p.states = some s) : Good ⟨1, .seq :: s⟩ (indentlessSequenceEntry p) := by
  unfold indentlessSequenceEntry
  apply Good_bind_peek; intro t _
  split
  · apply Good_bind_peek; intro t2 _
    split
    iterate 4 exact Good.stay rfl hs rfl
    exact Good.node rfl hs rfl
  · exact Good.pop (.inl rfl) hs rfl

theorem blockSequenceEntry_good {p : PState} {s : List Ctx} (first : Bool)
    (hs : absStack p.states = some s) : Good ⟨1, .seq :: s⟩ (blockSequenceEntry p first) := by
  unfold blockSequenceEntry
  refine Good.bind (skipFirst_adv first p) fun q hq => ?_
  have hs' : absStack q.states = some s := hq.states ▸ hs
  apply Good_bind_peek; intro t _
  split
  · exact Good.pop (.inr rfl) hs' rfl
  · apply Good_bind_peek; intro t2 _
    split
    iterate 2 exact Good.stay rfl hs' rfl
    exact Good.node rfl hs' rfl
  · trivial

theorem flowSequenceEntryMappingKey_good {p : PState} {s : List Ctx}
    (hs : absStack p.states = some s) :
    Good ⟨1, .mapK :: .seq :: s⟩ (flowSequenceEntryMappingKey p) := by
  unfold flowSequenceEntryMappingKey
  apply Good_bind_peek; intro t _
  split
  iterate 3 exact Good.stay rfl hs rfl
  exact Good.node rfl hs rfl

theorem flowSequenceEntryMappingValue_good {p : PState} {s : List Ctx}
    (hs : absStack p.states = some s) :
    Good ⟨1, .mapV :: .seq :: s⟩ (flowSequenceEntryMappingValue p) := by
  unfold flowSequenceEntryMappingValue
  apply Good_bind_peek; intro t _
  split
  · apply Good_bind_peek; intro t2 _
    split
    iterate 2 exact Good.stay rfl hs rfl
    exact Good.node rfl hs rfl
  · exact Good.stay rfl hs rfl

/-- One step of the parser from a related state is a grammar step to a related state.
    (`State::End` is excluded: `next_event` never calls `parse` again after `StreamEnd`.) -/
theorem parseStep_good {p : PState} {g : G} (h : R p g) (hne : p.state ≠ .end) :
    Good g (parseStep p) := by
  unfold parseStep
  unfold R at h
  split <;> rename_i hst <;> rw [hst] at h
  · exact absurd hst hne
  · obtain ⟨rfl, hs⟩ := h; exact streamStart_good hs
  · obtain ⟨rfl, hs⟩ := h; exact documentStart_good true hs
  · obtain ⟨rfl, hs⟩ := h; exact documentStart_good false hs
  · obtain ⟨ph, st⟩ := g; obtain ⟨rfl, s, hs, hg⟩ := h; exact documentContent_good hs hg
  · obtain ⟨rfl, hs⟩ := h; exact documentEnd_good hs
  · obtain ⟨ph, st⟩ := g; obtain ⟨rfl, s, hs, hg⟩ := h; exact parseNode_good _ _ hs hg
  all_goals obtain ⟨s, hs, rfl⟩ := (R'_coll rfl _ _).1 h
  · exact blockMappingKey_good true hs
  · exact blockMappingKey_good false hs
  · exact blockMappingValue_good hs
  · exact blockSequenceEntry_good true hs
  · exact blockSequenceEntry_good false hs
  · exact flowSequenceEntry_good true hs
  · exact flowSequenceEntry_good false hs
  · exact flowMappingKey_good true hs
  · exact flowMappingKey_good false hs
  · exact flowMappingValue_good false hs
  · exact indentlessSequenceEntry_good hs
  · exact flowSequenceEntryMappingKey_good hs
  · exact flowSequenceEntryMappingValue_good hs
  · exact Good.stay rfl hs rfl
  · exact flowMappingValue_good true hs

end SaphyrModel
