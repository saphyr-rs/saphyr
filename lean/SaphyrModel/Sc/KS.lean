import SaphyrModel.Sc.KeepsFetch
import SaphyrModel.Sc.Assemble
/-! String back-end: on a `StrInput` the scanner reaches no input-level panic site at all.
`KS m`: started on a string input, `m` leaves a string input and can only stop at `fuel` or at a
structural site (those are excluded separately by `scanAll_no_struct_panic`). -/
namespace SaphyrModel.Sc
open SaphyrModel

def OkSite (p : Site) : Prop := p = .fuel ∨ StructSite p

structure KI (m : M In α) : Prop where
  out : ∀ i, i.kind = .str → match m i with
    | .ok (_, i') => i'.kind = .str
    | .err _ => True
    | .panic p => OkSite p

structure KS (m : S α) : Prop where
  out : ∀ s, s.inp.kind = .str → match m s with
    | .ok (_, s') => s'.inp.kind = .str
    | .err _ => True
    | .panic p => OkSite p

/-- "on a string input", in the shape of the invariants of `Fetch.ofStr` (`∧ J s.inp.iter`) with no condition on the text -/
abbrev OnStr (s : Sc) : Prop := s.inp.kind = .str ∧ True

instance : Fetch OkSite OnStr := .ofStr (.inl rfl) .inr fun _ _ => trivial

theorem KS.iff {m : S α} : KS m ↔ Keeps OkSite OnStr m := by
  constructor
  · intro h
    constructor <;> intro s <;> intros <;> rename_i hs hm <;> have := h.out s hs.1 <;> rw [hm] at this
    · exact ⟨this, trivial⟩
    · exact this
  · intro h; constructor; intro s hk
    cases hm : m s with
    | ok r => exact (h.ok ⟨hk, trivial⟩ hm).1
    | err e => trivial
    | panic p => exact h.panic ⟨hk, trivial⟩ hm

theorem KS.of {m : S α} (h : Keeps OkSite OnStr m) : KS m := KS.iff.2 h

theorem KI.of {m : M In α} [InOp m] : KI m := by
  constructor; intro i hk
  cases hm : m i with
  | ok r => exact (InOp.str hk hm).1
  | err e => trivial
  | panic p => exact absurd hm (InOp.strPanic hk)

theorem KI.kindSplit {f : In → Res (α × In)} {g : M In α}
    (hf : ∀ i, i.kind = .str → match f i with | .ok (_, i') => i'.kind = .str | .err _ => True | .panic p => OkSite p) :
    KI (fun i => match i.kind with | .str => f i | .buf => g i) := by
  constructor
  intro i hk
  have := hf i hk
  simp only [hk]
  exact this

theorem KI.lookahead (n) : KI (In.lookahead n) := .of
theorem KI.assertBuflen (n s) : KI (In.assertBuflen n s) := by
  constructor; intro i hk; unfold In.assertBuflen; simp only [hk]
theorem KI.lookCh : KI In.lookCh := .of
theorem KI.next3Are (a b c) : KI (In.next3Are a b c) := .of

theorem KS.plainGuard {fl : Bool} {A : S α} {f : Bool → S α} (hA : KS A) (hf : ∀ c, KS (f c)) :
    KS (Sc.liftI In.nextIsBlankOrBreakz >>= fun b =>
      if b = true then A else (Sc.liftI (In.nextCanBePlainScalar fl) >>= f)) :=
  .of (Keeps.plainGuard (KS.iff.1 hA) fun c => KS.iff.1 (hf c))

theorem KS.plainGuard2 {fl : Bool} {f : Bool → S α} (hf : ∀ c, KS (f c)) :
    KS (Sc.liftI In.nextIsBlankOrBreakz >>= fun isBz =>
      (if isBz = true then (Pure.pure false : S Bool) else Sc.liftI (In.nextCanBePlainScalar fl)) >>= f) := by
  -- the same guard, written with the answer `false` for a blank or the end
  have e : (Sc.liftI In.nextIsBlankOrBreakz >>= fun isBz =>
        (if isBz = true then (Pure.pure false : S Bool) else Sc.liftI (In.nextCanBePlainScalar fl)) >>= f) =
      (Sc.liftI In.nextIsBlankOrBreakz >>= fun b =>
        if b = true then f false else (Sc.liftI (In.nextCanBePlainScalar fl) >>= f)) := by
    funext s; simp only [Bind.bind]
    rcases Sc.liftI In.nextIsBlankOrBreakz s with ⟨b, s1⟩ | e | p <;> try rfl
    cases b <;> rfl
  rw [e]; exact KS.plainGuard (hf false) hf

theorem KS.bufmaxlen : KS bufmaxlen := .of Keeps.bufmaxlen
theorem KS.bufIsEmpty : KS bufIsEmpty := .of Keeps.bufIsEmpty
theorem KS.isWithinBlock : KS isWithinBlock := .of Keeps.isWithinBlock
theorem KS.lookahead (n) : KS (lookahead n) := .of (Keeps.lookahead n)
theorem KS.lookCh : KS lookCh := .of Keeps.lookCh
theorem KS.advance (n) : KS (advance n) := .of (Keeps.advance n)
theorem KS.pushTok (sp t) : KS (pushTok sp t) := .of (Keeps.pushTok sp t)
theorem KS.disallowSimpleKey : KS disallowSimpleKey := .of Keeps.disallowSimpleKey
theorem KS.scanUriEscapes (mark : Marker) : KS (scanUriEscapes mark) := .of (Keeps.scanUriEscapes mark)
theorem KS.scanTag : KS (scanTag) := .of Keeps.scanTag
theorem KS.blockScalarLines (lit : Bool) (indent : Nat) (fuel : Nat) : ∀ a, KS (blockScalarLines lit indent fuel a) :=
  fun a => .of (Keeps.blockScalarLines lit indent fuel a)
theorem KS.blockHeader (m : Marker) (c : Char) (b : Bool) : KS (blockHeader m c b) := .of (Keeps.blockHeader m c b)
theorem KS.blockIndent (inc : Nat) (s : Sc) : KS (blockIndent inc s) := .of (Keeps.blockIndent inc s)
theorem KS.blockFinish (ch : Chomping) (ind : Nat) (a : BlkAcc) (s : Sc) : KS (blockFinish ch ind a s) :=
  .of (Keeps.blockFinish ch ind a s)
theorem KS.blockContent (lit : Bool) (ch : Chomping) (ind : Nat) (tb : Str) (s : Sc) :
    KS (blockContent lit ch ind tb s) :=
  .of (Keeps.blockContent lit ch ind tb s)
theorem KS.scanBlockScalarBody (lit : Bool) (m : Marker) : KS (scanBlockScalarBody lit m) :=
  .of (Keeps.scanBlockScalarBody lit m)
theorem KS.resolveEscape (m : Marker) : KS (resolveEscape m) := .of (Keeps.resolveEscape m)
theorem KS.scanFlowScalar (single : Bool) : KS (scanFlowScalar single) := .of (Keeps.scanFlowScalar single)
theorem KS.insertToken (pos : Nat) (tok : Token) : KS (insertToken pos tok) := .of (Keeps.insertToken pos tok)
theorem KS.tokenPos (n : Nat) : KS (tokenPos n) := .of (Keeps.tokenPos n)
theorem KS.rollIndentPush (col n tok mark) : KS (rollIndentPush col n tok mark) :=
  .of (Keeps.rollIndentPush col n tok mark)
theorem KS.rollIndent (col n tok mark) : KS (rollIndent col n tok mark) := .of (Keeps.rollIndent col n tok mark)
theorem KS.unrollIndent (col : Int) : KS (unrollIndent col) := .of (Keeps.unrollIndent col)
theorem KS.rollOneColIndent : KS rollOneColIndent := .of Keeps.rollOneColIndent
theorem KS.unrollNonBlockIndents : KS unrollNonBlockIndents := .of Keeps.unrollNonBlockIndents
theorem KS.requiredKey (s : Sc) : KS (requiredKey s) := .of (Keeps.requiredKey s)
theorem KS.saveSimpleKey : KS saveSimpleKey := .of Keeps.saveSimpleKey
theorem KS.removeSimpleKey : KS removeSimpleKey := .of Keeps.removeSimpleKey
theorem KS.staleSimpleKeys : KS staleSimpleKeys := .of Keeps.staleSimpleKeys
theorem KS.increaseFlowLevel : KS increaseFlowLevel := .of Keeps.increaseFlowLevel
theorem KS.decreaseFlowLevel : KS decreaseFlowLevel := .of Keeps.decreaseFlowLevel
theorem KS.closeFlowState (t : TokenType) : KS (closeFlowState t) := .of (Keeps.closeFlowState t)
theorem KS.fetchBlockEntryBody (s : Sc) : KS (fetchBlockEntryBody s) := .of (Keeps.fetchBlockEntryBody s)
theorem KS.scanBlockScalar (lit : Bool) : KS (scanBlockScalar lit) := .of (Keeps.scanBlockScalar lit)
theorem KS.scanPlainScalar : KS scanPlainScalar := .of Keeps.scanPlainScalar
theorem KS.keyPrologue (s : Sc) : KS (keyPrologue s) := .of (Keeps.keyPrologue s)
theorem KS.fetchKeyTail (m : Marker) : KS (fetchKeyTail m) := .of (Keeps.fetchKeyTail m)
theorem KS.valueAfterSimpleKey (sk m i) : KS (valueAfterSimpleKey sk m i) := .of (Keeps.valueAfterSimpleKey sk m i)
theorem KS.valueAfterComplexKey (m i) : KS (valueAfterComplexKey m i) := .of (Keeps.valueAfterComplexKey m i)
theorem KS.valueTabCheck : KS valueTabCheck := .of Keeps.valueTabCheck
theorem KS.fetchSpecial : KS fetchSpecial := .of Keeps.fetchSpecial
theorem KS.fetchDispatch : KS fetchDispatch := .of Keeps.fetchDispatch
theorem KS.fetchAfterStart : KS fetchAfterStart := .of Keeps.fetchAfterStart
theorem KS.needMoreTokens : KS needMoreTokens := .of Keeps.needMoreTokens
theorem KS.popToken : KS popToken := .of Keeps.popToken

theorem pushImplState_inp (st : ImplState) (s : Sc) : (pushImplState st s).inp = s.inp := rfl

theorem scanAll_str (fuel : Nat) (s : Sc) (acc : List Token) (hk : s.inp.kind = .str) (p : Site)
    (hp : (scanAll fuel s acc).2.1 = .panic p) : OkSite p :=
  Keeps.scanAll (I := OnStr) Keeps.nextToken (.inl rfl) fuel s acc ⟨hk, trivial⟩ hp

/-- **StrInput: no panic site at all.** Scanning a string slice, the only way the model run can
stop abnormally is by exhausting its fuel: no `unwrap`, `assert!`, index or subtraction site of the
scanner or of `StrInput` is reachable, for any text. -/
theorem scanAll_str_only_fuel (cap : Nat) (text : Str) (fuel : Nat) (p : Site)
    (hp : (scanAll fuel (mkSc .str cap text) []).2.1 = .panic p) : p = .fuel := by
  rcases scanAll_str fuel _ [] rfl p hp with h | h
  · exact h
  · exact absurd h (scanAll_no_struct_panic fuel _ [] (mkSc_between .str cap text) p hp)

end SaphyrModel.Sc
