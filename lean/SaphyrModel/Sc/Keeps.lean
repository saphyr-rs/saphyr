import SaphyrModel.Sc.Scan3
import SaphyrModel.Sc.KeepsAttr
/-! `Keeps A I m`: started in a state that satisfies `I`, the computation `m` ends in a state that satisfies `I`,
or with a scan error, or at a panic site in `A`. The predicates "every scanner function …" of this directory
(stays on a string input, never moves the mark back, leaves the token queue alone, frames the structural
state, keeps the structural invariant) are all `Keeps` for some `A` and `I`, at the level of the scanner state or
of the input. -/
namespace SaphyrModel.Sc
open SaphyrModel

theorem bind_ok {σ : Type} {m : M σ α} {f : α → M σ β} {s s' : σ} {a : α} (h : m s = .ok (a, s')) :
    (m >>= f) s = f a s' := by simp only [Bind.bind, h]

theorem bind_assoc {σ : Type} (m : M σ α) (f : α → M σ β) (g : β → M σ γ) :
    (m >>= f) >>= g = m >>= fun a => f a >>= g := by
  funext s; simp only [Bind.bind]; cases m s <;> rfl

theorem bind_ok_iff {σ : Type} {m : M σ α} {f : α → M σ β} {s : σ} {r : β × σ} :
    (m >>= f) s = .ok r ↔ ∃ a s', m s = .ok (a, s') ∧ f a s' = .ok r := by
  simp only [Bind.bind]
  rcases m s with ⟨a, s1⟩ | e | q
  · dsimp only; exact ⟨fun h => ⟨a, s1, rfl, h⟩, fun ⟨_, _, h1, h2⟩ => by cases h1; exact h2⟩
  · simp
  · simp

theorem bind_panic_iff {σ : Type} {m : M σ α} {f : α → M σ β} {s : σ} {p : Site} :
    (m >>= f) s = .panic p ↔ m s = .panic p ∨ ∃ a s', m s = .ok (a, s') ∧ f a s' = .panic p := by
  simp only [Bind.bind]
  rcases m s with ⟨a, s1⟩ | e | q
  · dsimp only
    exact ⟨fun h => .inr ⟨a, s1, rfl, h⟩, fun h => by
      rcases h with h | ⟨_, _, h1, h2⟩
      · cases h
      · cases h1; exact h2⟩
  · simp
  · simp

structure Keeps {σ : Type} (A : Site → Prop) (I : σ → Prop) (m : M σ α) : Prop where
  ok : ∀ {s a s'}, I s → m s = .ok (a, s') → I s'
  panic : ∀ {s p}, I s → m s = .panic p → A p

namespace Keeps
variable {σ : Type} {A : Site → Prop} {I : σ → Prop}

theorem read (g : σ → α) : Keeps A I (fun s => .ok (g s, s) : M σ α) where
  ok hs h := by cases h; exact hs
  panic _ h := nomatch h
theorem pure (a : α) : Keeps A I (Pure.pure a : M σ α) := read _
/-- for a loop whose fuel is computed from the state it starts in (the trait's default loops: from the input length) -/
theorem dep {f : σ → M σ α} (h : ∀ s, Keeps A I (f s)) : Keeps A I (fun s => f s s) :=
  ⟨fun hi e => (h _).ok hi e, fun hi e => (h _).panic hi e⟩
theorem getS : Keeps A I (getS : M σ σ) := read _
theorem panicAt {p : Site} (h : A p) : Keeps A I (panicAt p : M σ α) where
  ok _ h := nomatch h
  panic _ hp := by cases hp; exact h
theorem modS {f : σ → σ} (h : ∀ s, I s → I (f s)) : Keeps A I (modS f) where
  ok hs hm := by cases hm; exact h _ hs
  panic _ h := nomatch h

theorem bind {m : M σ α} {f : α → M σ β} (h1 : Keeps A I m) (h2 : ∀ a, Keeps A I (f a)) :
    Keeps A I (m >>= f) where
  ok hs h := by
    obtain ⟨a, s1, hm, hf⟩ := bind_ok_iff.1 h
    exact (h2 a).ok (h1.ok hs hm) hf
  panic hs h := by
    rcases bind_panic_iff.1 h with hm | ⟨a, s1, hm, hf⟩
    · exact h1.panic hs hm
    · exact (h2 a).panic (h1.ok hs hm) hf

theorem ite {c : Prop} [Decidable c] {a b : M σ α} (ha : Keeps A I a) (hb : Keeps A I b) :
    Keeps A I (if c then a else b) := by split <;> assumption

/-- A join point of a `do` block (`have jp := fun x => …; body`): the continuation `jp` is gone through once,
however many jumps to it `body` contains. Going through `body` with `jp` unfolded repeats it at every jump,
and the jumps nest. -/
theorem cut {jp : β → M σ γ} {m : M σ α} (h1 : ∀ x, Keeps A I (jp x))
    (h2 : (∀ x, Keeps A I (jp x)) → Keeps A I m) : Keeps A I m := h2 h1
theorem cut2 {jp : β → β' → M σ γ} {m : M σ α} (h1 : ∀ x y, Keeps A I (jp x y))
    (h2 : (∀ x y, Keeps A I (jp x y)) → Keeps A I m) : Keeps A I m := h2 h1

end Keeps

theorem liftI_ok_iff {m : M In α} {s : Sc} {a : α} {s' : Sc} :
    liftI m s = .ok (a, s') ↔ ∃ i, m s.inp = .ok (a, i) ∧ s' = { s with inp := i } := by
  simp only [liftI]
  rcases m s.inp with ⟨b, i⟩ | e | q
  · dsimp only
    exact ⟨fun h => by cases h; exact ⟨i, rfl, rfl⟩, fun ⟨_, h1, h2⟩ => by cases h1; cases h2; rfl⟩
  · simp
  · simp

theorem liftI_panic_iff {m : M In α} {s : Sc} {p : Site} : liftI m s = .panic p ↔ m s.inp = .panic p := by
  simp only [liftI]
  cases m s.inp <;> simp

namespace Keeps
variable {A : Site → Prop} {I : Sc → Prop}

theorem getMark : Keeps A I getMark := read _
theorem err (m : Marker) (msg : String) : Keeps A I (Sc.err m msg : S α) := ⟨fun _ => nofun, fun _ => nofun⟩

theorem liftI {m : M In α} (hI : ∀ {s : Sc} (i : In), I s → I { s with inp := i })
    (hm : ∀ i p, m i = .panic p → A p) : Keeps A I (liftI m) :=
  ⟨fun hs h => by obtain ⟨i, _, rfl⟩ := liftI_ok_iff.1 h; exact hI i hs, fun _ h => hm _ _ (liftI_panic_iff.1 h)⟩

end Keeps

theorem Keeps.scanAll {A : Site → Prop} {I : Sc → Prop} (h : Keeps A I nextToken) (hf : A .fuel) {p : Site} :
    ∀ (fuel : Nat) (s : Sc) (acc : List Token), I s → (scanAll fuel s acc).2.1 = .panic p → A p := by
  intro fuel
  induction fuel with
  | zero => intro s acc _ hp; cases hp; exact hf
  | succ n ih =>
    intro s acc hs hp
    simp only [Sc.scanAll] at hp
    cases hn : nextToken s with
    | ok r =>
      obtain ⟨o, s'⟩ := r
      cases o with
      | some t => rw [hn] at hp; exact ih s' _ (h.ok hs hn) hp
      | none => simp [hn] at hp
    | err e => simp [hn] at hp
    | panic q => simp only [hn] at hp; cases hp; exact h.panic hs hn

/-! The tactic `keeps` proves `Keeps A I f` for a function `f` that has been unfolded, by going through its body once:
a join point first (see `Keeps.cut`), then the rule for the construct at the head (`keeps_node`), then a leaf
(`keeps_call`: a call of a function tagged `@[keeps]`, or a hypothesis; `keeps_leaf`: a primitive), then the cases of a `match`.
`keeps_node` and `keeps_leaf` are extended where further primitives get their rules (Sc/Layers.lean) and where an
invariant has rules of its own (Sc/Struct.lean: `InvS`; Sc/TokOrd.lean: the token queue): what a call of `keeps`
closes a leaf with is what is in scope there. -/
syntax "keeps" : tactic
syntax "keeps_node" : tactic
syntax "keeps_call" : tactic
syntax "keeps_leaf" : tactic
syntax "keeps_jp" : tactic
-- `have jp := v; body` at the head of the goal: `jp` becomes a hypothesis about `v`, proved as a goal of its own;
-- a `have` that is no join point (a value, not a continuation) is simply forgotten.
macro_rules | `(tactic| keeps_jp) => `(tactic| focus
  (extract_lets +onlyGivenNames jp
   first
   | (refine Keeps.cut (jp := jp) ?_ ?_; rotate_left; intro hjp; clear_value jp; rotate_left; intro x; unfold jp)
   | (refine Keeps.cut2 (jp := jp) ?_ ?_; rotate_left; intro hjp; clear_value jp; rotate_left; intro x y; unfold jp)
   | clear_value jp))
macro_rules | `(tactic| keeps_node) => `(tactic| first
  | with_reducible apply Keeps.bind | with_reducible apply Keeps.ite)
-- The commonest leaf, tried before the others. `Nat.le_refl`: callee lemmas of the shape `μ m ≤ lo → …` are used at `lo := μ m`
macro_rules | `(tactic| keeps_call) => `(tactic| (simp only [keeps, Nat.le_refl, *]; done))
macro_rules | `(tactic| keeps_leaf) => `(tactic| first
  | with_reducible exact Keeps.pure _ | with_reducible exact Keeps.getS | with_reducible exact Keeps.getMark
  | with_reducible exact Keeps.err _ _)
macro_rules | `(tactic| keeps) => `(tactic|
  repeat' (first | intro _ | keeps_jp | keeps_node | keeps_call | keeps_leaf | split))

end SaphyrModel.Sc
