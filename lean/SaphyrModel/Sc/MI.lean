import SaphyrModel.Sc.KeepsFetch
/-! C12, "each span starts no later than it ends": no scanner function moves the mark back, in index or in line.
`MI m` (`ML m`): whenever `m` returns normally — on any input back-end, from any state — the index (the line) of
the scanner's mark is at least what it was. -/
namespace SaphyrModel.Sc
open SaphyrModel

/-- a coordinate of the mark that grows with index and line: the index, the line (not the column) -/
class Coord (μ : Marker → Nat) : Prop where
  mono : ∀ {m m' : Marker}, m.index ≤ m'.index → m.line ≤ m'.line → μ m ≤ μ m'
instance : Coord Marker.index := ⟨fun h _ => h⟩
instance : Coord Marker.line := ⟨fun _ h => h⟩

instance (μ : Marker → Nat) [Coord μ] (n : Nat) : Fetch (fun _ => True) (fun s => n ≤ μ s.mark) :=
  .ofBlind trivial (fun _ h => h) fun hf h => Nat.le_trans h (Coord.mono hf.index hf.line)

/-- `m` does not decrease the coordinate `μ` of the mark -/
abbrev Mono (μ : Marker → Nat) (m : S α) : Prop := ∀ n, Keeps (fun _ => True) (fun s => n ≤ μ s.mark) m

/-- an input operation does not touch the mark: also `next_can_be_plain_scalar`, wherever it is called -/
@[keeps] theorem Mono.liftI {μ : Marker → Nat} (m : M In α) : Mono μ (liftI m) := fun _ =>
  .liftI (fun _ h => h) fun _ _ _ => trivial

theorem Mono.le {μ : Marker → Nat} {m : S α} (h : Mono μ m) {s : Sc} {a : α} {s' : Sc} (hm : m s = .ok (a, s')) :
    μ s.mark ≤ μ s'.mark := (h _).ok (Nat.le_refl _) hm

structure MI (m : S α) : Prop where
  out : ∀ s a s', m s = .ok (a, s') → s.mark.index ≤ s'.mark.index

structure ML (m : S α) : Prop where
  out : ∀ s a s', m s = .ok (a, s') → s.mark.line ≤ s'.mark.line

theorem MI.of {m : S α} (h : Mono Marker.index m) : MI m := ⟨fun _ _ _ hm => h.le hm⟩
theorem ML.of {m : S α} (h : Mono Marker.line m) : ML m := ⟨fun _ _ _ hm => h.le hm⟩

theorem MI.bufmaxlen : MI bufmaxlen := .of fun _ => Keeps.bufmaxlen
theorem MI.bufIsEmpty : MI bufIsEmpty := .of fun _ => Keeps.bufIsEmpty
theorem MI.isWithinBlock : MI isWithinBlock := .of fun _ => Keeps.isWithinBlock
theorem MI.lookahead (n) : MI (lookahead n) := .of fun _ => (Keeps.lookahead n)
theorem MI.lookCh : MI lookCh := .of fun _ => Keeps.lookCh
theorem MI.advance (n) : MI (advance n) := .of fun _ => (Keeps.advance n)
theorem MI.disallowSimpleKey : MI disallowSimpleKey := .of fun _ => Keeps.disallowSimpleKey
theorem MI.scanUriEscapes (mark : Marker) : MI (scanUriEscapes mark) := .of fun _ => (Keeps.scanUriEscapes mark)
theorem MI.scanTag : MI (scanTag) := .of fun _ => Keeps.scanTag
theorem MI.blockScalarLines (lit : Bool) (indent : Nat) (fuel : Nat) : ∀ a, MI (blockScalarLines lit indent fuel a) :=
  fun a => .of fun _ => (Keeps.blockScalarLines lit indent fuel a)
theorem MI.blockHeader (m : Marker) (c : Char) (b : Bool) : MI (blockHeader m c b) :=
  .of fun _ => (Keeps.blockHeader m c b)
theorem MI.blockIndent (inc : Nat) (s : Sc) : MI (blockIndent inc s) := .of fun _ => (Keeps.blockIndent inc s)
theorem MI.blockFinish (ch : Chomping) (ind : Nat) (a : BlkAcc) (s : Sc) : MI (blockFinish ch ind a s) :=
  .of fun _ => (Keeps.blockFinish ch ind a s)
theorem MI.blockContent (lit : Bool) (ch : Chomping) (ind : Nat) (tb : Str) (s : Sc) :
    MI (blockContent lit ch ind tb s) :=
  .of fun _ => (Keeps.blockContent lit ch ind tb s)
theorem MI.scanBlockScalarBody (lit : Bool) (m : Marker) : MI (scanBlockScalarBody lit m) :=
  .of fun _ => (Keeps.scanBlockScalarBody lit m)
theorem MI.resolveEscape (m : Marker) : MI (resolveEscape m) := .of fun _ => (Keeps.resolveEscape m)
theorem MI.scanFlowScalar (single : Bool) : MI (scanFlowScalar single) := .of fun _ => (Keeps.scanFlowScalar single)
theorem MI.insertToken (pos : Nat) (tok : Token) : MI (insertToken pos tok) := .of fun _ => (Keeps.insertToken pos tok)
theorem MI.tokenPos (n : Nat) : MI (tokenPos n) := .of fun _ => (Keeps.tokenPos n)
theorem MI.rollIndentPush (col n tok mark) : MI (rollIndentPush col n tok mark) :=
  .of fun _ => (Keeps.rollIndentPush col n tok mark)
theorem MI.rollIndent (col n tok mark) : MI (rollIndent col n tok mark) :=
  .of fun _ => (Keeps.rollIndent col n tok mark)
theorem MI.unrollIndent (col : Int) : MI (unrollIndent col) := .of fun _ => (Keeps.unrollIndent col)
theorem MI.rollOneColIndent : MI rollOneColIndent := .of fun _ => Keeps.rollOneColIndent
theorem MI.unrollNonBlockIndents : MI unrollNonBlockIndents := .of fun _ => Keeps.unrollNonBlockIndents
theorem MI.requiredKey (s : Sc) : MI (requiredKey s) := .of fun _ => (Keeps.requiredKey s)
theorem MI.saveSimpleKey : MI saveSimpleKey := .of fun _ => Keeps.saveSimpleKey
theorem MI.removeSimpleKey : MI removeSimpleKey := .of fun _ => Keeps.removeSimpleKey
theorem MI.staleSimpleKeys : MI staleSimpleKeys := .of fun _ => Keeps.staleSimpleKeys
theorem MI.increaseFlowLevel : MI increaseFlowLevel := .of fun _ => Keeps.increaseFlowLevel
theorem MI.decreaseFlowLevel : MI decreaseFlowLevel := .of fun _ => Keeps.decreaseFlowLevel
theorem MI.closeFlowState (t : TokenType) : MI (closeFlowState t) := .of fun _ => (Keeps.closeFlowState t)
theorem MI.fetchBlockEntryBody (s : Sc) : MI (fetchBlockEntryBody s) := .of fun _ => (Keeps.fetchBlockEntryBody s)
theorem MI.scanBlockScalar (lit : Bool) : MI (scanBlockScalar lit) := .of fun _ => (Keeps.scanBlockScalar lit)
theorem MI.scanPlainScalar : MI scanPlainScalar := .of fun _ => Keeps.scanPlainScalar
theorem MI.keyPrologue (s : Sc) : MI (keyPrologue s) := .of fun _ => (Keeps.keyPrologue s)
theorem MI.fetchKeyTail (m : Marker) : MI (fetchKeyTail m) := .of fun _ => (Keeps.fetchKeyTail m)
theorem MI.valueAfterSimpleKey (sk m i) : MI (valueAfterSimpleKey sk m i) :=
  .of fun _ => (Keeps.valueAfterSimpleKey sk m i)
theorem MI.valueAfterComplexKey (m i) : MI (valueAfterComplexKey m i) := .of fun _ => (Keeps.valueAfterComplexKey m i)
theorem MI.valueTabCheck : MI valueTabCheck := .of fun _ => Keeps.valueTabCheck
theorem MI.fetchSpecial : MI fetchSpecial := .of fun _ => Keeps.fetchSpecial
theorem MI.fetchDispatch : MI fetchDispatch := .of fun _ => Keeps.fetchDispatch
theorem MI.fetchAfterStart : MI fetchAfterStart := .of fun _ => Keeps.fetchAfterStart
theorem MI.needMoreTokens : MI needMoreTokens := .of fun _ => Keeps.needMoreTokens
theorem MI.popToken : MI popToken := .of fun _ => Keeps.popToken
theorem pushImplState_mark (st : ImplState) (s : Sc) : (pushImplState st s).mark = s.mark := rfl

theorem ML.bufmaxlen : ML bufmaxlen := .of fun _ => Keeps.bufmaxlen
theorem ML.bufIsEmpty : ML bufIsEmpty := .of fun _ => Keeps.bufIsEmpty
theorem ML.isWithinBlock : ML isWithinBlock := .of fun _ => Keeps.isWithinBlock
theorem ML.lookahead (n) : ML (lookahead n) := .of fun _ => (Keeps.lookahead n)
theorem ML.lookCh : ML lookCh := .of fun _ => Keeps.lookCh
theorem ML.advance (n) : ML (advance n) := .of fun _ => (Keeps.advance n)
theorem ML.disallowSimpleKey : ML disallowSimpleKey := .of fun _ => Keeps.disallowSimpleKey
theorem ML.scanUriEscapes (mark : Marker) : ML (scanUriEscapes mark) := .of fun _ => (Keeps.scanUriEscapes mark)
theorem ML.scanTag : ML (scanTag) := .of fun _ => Keeps.scanTag
theorem ML.blockScalarLines (lit : Bool) (indent : Nat) (fuel : Nat) : ∀ a, ML (blockScalarLines lit indent fuel a) :=
  fun a => .of fun _ => (Keeps.blockScalarLines lit indent fuel a)
theorem ML.blockHeader (m : Marker) (c : Char) (b : Bool) : ML (blockHeader m c b) :=
  .of fun _ => (Keeps.blockHeader m c b)
theorem ML.blockIndent (inc : Nat) (s : Sc) : ML (blockIndent inc s) := .of fun _ => (Keeps.blockIndent inc s)
theorem ML.blockFinish (ch : Chomping) (ind : Nat) (a : BlkAcc) (s : Sc) : ML (blockFinish ch ind a s) :=
  .of fun _ => (Keeps.blockFinish ch ind a s)
theorem ML.blockContent (lit : Bool) (ch : Chomping) (ind : Nat) (tb : Str) (s : Sc) :
    ML (blockContent lit ch ind tb s) :=
  .of fun _ => (Keeps.blockContent lit ch ind tb s)
theorem ML.scanBlockScalarBody (lit : Bool) (m : Marker) : ML (scanBlockScalarBody lit m) :=
  .of fun _ => (Keeps.scanBlockScalarBody lit m)
theorem ML.resolveEscape (m : Marker) : ML (resolveEscape m) := .of fun _ => (Keeps.resolveEscape m)
theorem ML.scanFlowScalar (single : Bool) : ML (scanFlowScalar single) := .of fun _ => (Keeps.scanFlowScalar single)
theorem ML.insertToken (pos : Nat) (tok : Token) : ML (insertToken pos tok) := .of fun _ => (Keeps.insertToken pos tok)
theorem ML.tokenPos (n : Nat) : ML (tokenPos n) := .of fun _ => (Keeps.tokenPos n)
theorem ML.rollIndentPush (col n tok mark) : ML (rollIndentPush col n tok mark) :=
  .of fun _ => (Keeps.rollIndentPush col n tok mark)
theorem ML.rollIndent (col n tok mark) : ML (rollIndent col n tok mark) :=
  .of fun _ => (Keeps.rollIndent col n tok mark)
theorem ML.unrollIndent (col : Int) : ML (unrollIndent col) := .of fun _ => (Keeps.unrollIndent col)
theorem ML.rollOneColIndent : ML rollOneColIndent := .of fun _ => Keeps.rollOneColIndent
theorem ML.unrollNonBlockIndents : ML unrollNonBlockIndents := .of fun _ => Keeps.unrollNonBlockIndents
theorem ML.requiredKey (s : Sc) : ML (requiredKey s) := .of fun _ => (Keeps.requiredKey s)
theorem ML.saveSimpleKey : ML saveSimpleKey := .of fun _ => Keeps.saveSimpleKey
theorem ML.removeSimpleKey : ML removeSimpleKey := .of fun _ => Keeps.removeSimpleKey
theorem ML.staleSimpleKeys : ML staleSimpleKeys := .of fun _ => Keeps.staleSimpleKeys
theorem ML.increaseFlowLevel : ML increaseFlowLevel := .of fun _ => Keeps.increaseFlowLevel
theorem ML.decreaseFlowLevel : ML decreaseFlowLevel := .of fun _ => Keeps.decreaseFlowLevel
theorem ML.closeFlowState (t : TokenType) : ML (closeFlowState t) := .of fun _ => (Keeps.closeFlowState t)
theorem ML.fetchBlockEntryBody (s : Sc) : ML (fetchBlockEntryBody s) := .of fun _ => (Keeps.fetchBlockEntryBody s)
theorem ML.scanBlockScalar (lit : Bool) : ML (scanBlockScalar lit) := .of fun _ => (Keeps.scanBlockScalar lit)
theorem ML.scanPlainScalar : ML scanPlainScalar := .of fun _ => Keeps.scanPlainScalar
theorem ML.keyPrologue (s : Sc) : ML (keyPrologue s) := .of fun _ => (Keeps.keyPrologue s)
theorem ML.fetchKeyTail (m : Marker) : ML (fetchKeyTail m) := .of fun _ => (Keeps.fetchKeyTail m)
theorem ML.valueAfterSimpleKey (sk m i) : ML (valueAfterSimpleKey sk m i) :=
  .of fun _ => (Keeps.valueAfterSimpleKey sk m i)
theorem ML.valueAfterComplexKey (m i) : ML (valueAfterComplexKey m i) := .of fun _ => (Keeps.valueAfterComplexKey m i)
theorem ML.valueTabCheck : ML valueTabCheck := .of fun _ => Keeps.valueTabCheck
theorem ML.fetchSpecial : ML fetchSpecial := .of fun _ => Keeps.fetchSpecial
theorem ML.fetchDispatch : ML fetchDispatch := .of fun _ => Keeps.fetchDispatch
theorem ML.fetchAfterStart : ML fetchAfterStart := .of fun _ => Keeps.fetchAfterStart
theorem ML.needMoreTokens : ML needMoreTokens := .of fun _ => Keeps.needMoreTokens
theorem ML.popToken : ML popToken := .of fun _ => Keeps.popToken
theorem pushImplState_markL (st : ImplState) (s : Sc) : (pushImplState st s).mark = s.mark := rfl

end SaphyrModel.Sc
