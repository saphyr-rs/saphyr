import SaphyrModel.Sc.Layers
/-! Every scanning function (whitespace, directives, tags, anchors, block, flow and plain scalars) keeps every
invariant that is a `Scan`. -/
namespace SaphyrModel.Sc
open SaphyrModel
variable {A : Site → Prop} {I : Sc → Prop} [Scan A I]

@[keeps] theorem Keeps.scanAnchorGo (fuel : Nat) : ∀ str, Keeps A I (scanAnchorGo fuel str) := by
  induction fuel <;> intro str <;> unfold Sc.scanAnchorGo <;> keeps
@[keeps] theorem Keeps.scanAnchor (alias : Bool) : Keeps A I (scanAnchor alias) := by unfold Sc.scanAnchor; keeps
@[keeps] theorem Keeps.skipToNextTokenGo (fuel : Nat) : Keeps A I (skipToNextTokenGo fuel) := by
  induction fuel <;> unfold Sc.skipToNextTokenGo <;> keeps
@[keeps] theorem Keeps.skipToNextToken : Keeps A I skipToNextToken := by unfold Sc.skipToNextToken; keeps
@[keeps] theorem Keeps.skipYamlWhitespaceGo (fuel : Nat) : ∀ b, Keeps A I (skipYamlWhitespaceGo fuel b) := by
  induction fuel <;> intro b <;> unfold Sc.skipYamlWhitespaceGo <;> keeps
@[keeps] theorem Keeps.skipYamlWhitespace : Keeps A I skipYamlWhitespace := by unfold Sc.skipYamlWhitespace; keeps
@[keeps] theorem Keeps.scanDirectiveName : Keeps A I scanDirectiveName := by unfold Sc.scanDirectiveName; keeps
@[keeps] theorem Keeps.scanVersionNumberGo (mark : Marker) (fuel : Nat) :
    ∀ v l, Keeps A I (scanVersionNumberGo mark fuel v l) := by
  induction fuel <;> intro v l <;> unfold Sc.scanVersionNumberGo <;> keeps
@[keeps] theorem Keeps.scanVersionDirectiveNumber (mark : Marker) :
    Keeps A I (scanVersionDirectiveNumber mark) := by unfold Sc.scanVersionDirectiveNumber; keeps
@[keeps] theorem Keeps.scanVersionDirectiveValue (mark : Marker) :
    Keeps A I (scanVersionDirectiveValue mark) := by unfold Sc.scanVersionDirectiveValue; keeps
@[keeps] theorem Keeps.scanTagHandle (d : Bool) (mark : Marker) :
    Keeps A I (scanTagHandle d mark) := by unfold Sc.scanTagHandle; keeps
@[keeps] theorem Keeps.scanUriEscapesGo (mark : Marker) (fuel : Nat) :
    ∀ w c, Keeps A I (scanUriEscapesGo mark fuel w c) := by
  induction fuel <;> intro w c <;> unfold Sc.scanUriEscapesGo <;> keeps
@[keeps] theorem Keeps.scanUriEscapes (mark : Marker) :
    Keeps A I (scanUriEscapes mark) := by unfold Sc.scanUriEscapes; keeps
@[keeps] theorem Keeps.scanUriLoop (p : Char → Bool) (mark : Marker) (fuel : Nat) :
    ∀ str n, Keeps A I (scanUriLoop p mark fuel str n) := by
  induction fuel <;> intro str n <;> unfold Sc.scanUriLoop <;> keeps
@[keeps] theorem Keeps.scanTagPrefix (m : Marker) : Keeps A I (scanTagPrefix m) := by unfold Sc.scanTagPrefix; keeps
@[keeps] theorem Keeps.scanTagDirectiveValue (m : Marker) :
    Keeps A I (scanTagDirectiveValue m) := by unfold Sc.scanTagDirectiveValue; keeps
@[keeps] theorem Keeps.scanDirective : Keeps A I scanDirective := by unfold Sc.scanDirective; keeps
@[keeps] theorem Keeps.scanVerbatimTag (m : Marker) :
    Keeps A I (scanVerbatimTag m) := by unfold Sc.scanVerbatimTag; keeps
@[keeps] theorem Keeps.scanTagShorthandSuffix (h : Str) (m : Marker) :
    Keeps A I (scanTagShorthandSuffix h m) := by unfold Sc.scanTagShorthandSuffix; keeps
@[keeps] theorem Keeps.scanTag : Keeps A I scanTag := by unfold Sc.scanTag; keeps
@[keeps] theorem Keeps.readBreak (acc : Str) : Keeps A I (readBreak acc) := by unfold Sc.readBreak; keeps
@[keeps] theorem Keeps.skipBlockScalarIndentSpaces (indent : Nat) (g : Bool) (fuel : Nat) :
    Keeps A I (skipBlockScalarIndentSpaces indent g fuel) := by
  induction fuel <;> unfold Sc.skipBlockScalarIndentSpaces <;> keeps
@[keeps] theorem Keeps.skipBlockScalarIndentBig (indent : Nat) (fuel : Nat) :
    Keeps A I (skipBlockScalarIndentBig indent fuel) := by
  induction fuel <;> unfold Sc.skipBlockScalarIndentBig <;> keeps
@[keeps] theorem Keeps.skipBlockScalarIndent (indent : Nat) (fuel : Nat) :
    ∀ b, Keeps A I (skipBlockScalarIndent indent fuel b) := by
  induction fuel <;> intro b <;> unfold Sc.skipBlockScalarIndent <;> keeps
@[keeps] theorem Keeps.skipSpaces (fuel : Nat) : Keeps A I (skipSpaces fuel) := by
  induction fuel <;> unfold Sc.skipSpaces <;> keeps
@[keeps] theorem Keeps.skipBlockScalarFirstLineIndentGo (fuel : Nat) :
    ∀ m b, Keeps A I (skipBlockScalarFirstLineIndentGo fuel m b) := by
  induction fuel <;> intro m b <;> unfold Sc.skipBlockScalarFirstLineIndentGo <;> keeps
@[keeps] theorem Keeps.skipBlockScalarFirstLineIndent (b : Str) :
    Keeps A I (skipBlockScalarFirstLineIndent b) := by unfold Sc.skipBlockScalarFirstLineIndent; keeps
@[keeps] theorem Keeps.contentLineBuffered (fuel : Nat) : ∀ str, Keeps A I (contentLineBuffered fuel str) := by
  induction fuel <;> intro str <;> unfold Sc.contentLineBuffered <;> keeps
@[keeps] theorem Keeps.contentLineRaw (fuel : Nat) : ∀ l, Keeps A I (contentLineRaw fuel l) := by
  induction fuel <;> intro l <;> unfold Sc.contentLineRaw <;> keeps
@[keeps] theorem Keeps.scanBlockScalarContentLine (str : Str) :
    Keeps A I (scanBlockScalarContentLine str) := by unfold Sc.scanBlockScalarContentLine; keeps
@[keeps] theorem Keeps.blockScalarLines (lit : Bool) (indent : Nat) (fuel : Nat) :
    ∀ a, Keeps A I (blockScalarLines lit indent fuel a) := by
  induction fuel <;> intro a <;> unfold Sc.blockScalarLines <;> keeps
@[keeps] theorem Keeps.blockHeaderDigit (m : Marker) (ch : Chomping) :
    Keeps A I (blockHeaderDigit m ch) := by unfold Sc.blockHeaderDigit; keeps
@[keeps] theorem Keeps.blockHeaderChomp (d : Char) :
    Keeps A I (blockHeaderChomp d) := by unfold Sc.blockHeaderChomp; keeps
@[keeps] theorem Keeps.blockHeader (m : Marker) (c : Char) (b : Bool) :
    Keeps A I (blockHeader m c b) := by unfold Sc.blockHeader; keeps
@[keeps] theorem Keeps.blockChompingBreak  : Keeps A I blockChompingBreak := by unfold Sc.blockChompingBreak; keeps
@[keeps] theorem Keeps.blockIndent (inc : Nat) (s : Sc) :
    Keeps A I (blockIndent inc s) := by unfold Sc.blockIndent; keeps
@[keeps] theorem Keeps.blockMarkerCheck (ind : Nat) (s : Sc) :
    Keeps A I (blockMarkerCheck ind s) := by unfold Sc.blockMarkerCheck; keeps
@[keeps] theorem Keeps.blockFinish (ch : Chomping) (ind : Nat) (a : BlkAcc) (s : Sc) :
    Keeps A I (blockFinish ch ind a s) := by unfold Sc.blockFinish; keeps
@[keeps] theorem Keeps.blockContent (lit : Bool) (ch : Chomping) (ind : Nat) (tb : Str) (s : Sc) :
    Keeps A I (blockContent lit ch ind tb s) := by unfold Sc.blockContent; keeps
@[keeps] theorem Keeps.blockAfterHeader (lit : Bool) (m : Marker) (ch : Chomping) (inc : Nat) (cb : Str) :
    Keeps A I (blockAfterHeader lit m ch inc cb) := by unfold Sc.blockAfterHeader; keeps
@[keeps] theorem Keeps.scanBlockScalarBody (lit : Bool) (m : Marker) :
    Keeps A I (scanBlockScalarBody lit m) := by unfold Sc.scanBlockScalarBody; keeps
@[keeps] theorem Keeps.hexLoop (m : Marker) (n : Nat) (fuel : Nat) : ∀ v, Keeps A I (hexLoop m n fuel v) := by
  induction fuel <;> intro v <;> unfold Sc.hexLoop <;> keeps
@[keeps] theorem Keeps.resolveEscape (m : Marker) : Keeps A I (resolveEscape m) := by unfold Sc.resolveEscape; keeps
@[keeps] theorem Keeps.consumeNonWs (single : Bool) (m : Marker) (fuel : Nat) :
    ∀ str lb, Keeps A I (consumeNonWs single m fuel str lb) := by
  induction fuel <;> intro str lb <;> unfold Sc.consumeNonWs <;> keeps
@[keeps] theorem Keeps.consumeBlanks (fuel : Nat) : ∀ a lb, Keeps A I (consumeBlanks fuel a lb) := by
  induction fuel <;> intro a lb <;> unfold Sc.consumeBlanks <;> keeps
@[keeps] theorem Keeps.flowScalarLoop (single : Bool) (m : Marker) (fuel : Nat) :
    ∀ str a, Keeps A I (flowScalarLoop single m fuel str a) := by
  induction fuel <;> intro str a <;> unfold Sc.flowScalarLoop <;> keeps
@[keeps] theorem Keeps.scanFlowScalar (single : Bool) :
    Keeps A I (scanFlowScalar single) := by unfold Sc.scanFlowScalar; keeps
@[keeps] theorem Keeps.plainChunk (fuel : Nat) : ∀ str, Keeps A I (plainChunk fuel str) := by
  induction fuel <;> intro str <;> unfold Sc.plainChunk <;> keeps
@[keeps] theorem Keeps.plainChunks (fuel : Nat) : ∀ str, Keeps A I (plainChunks fuel str) := by
  induction fuel <;> intro str <;> unfold Sc.plainChunks <;> keeps
@[keeps] theorem Keeps.plainBlanks (indent : Int) (m : Marker) (fuel : Nat) :
    ∀ a, Keeps A I (plainBlanks indent m fuel a) := by
  induction fuel <;> intro a <;> unfold Sc.plainBlanks <;> keeps
@[keeps] theorem Keeps.plainLoop (indent : Int) (m : Marker) (fuel : Nat) :
    ∀ a, Keeps A I (plainLoop indent m fuel a) := by
  induction fuel <;> intro a <;> unfold Sc.plainLoop <;> keeps
@[keeps] theorem Keeps.scanPlainScalarBody : Keeps A I scanPlainScalarBody := by unfold Sc.scanPlainScalarBody; keeps
omit [Scan A I] in
@[keeps] theorem Keeps.anchorIndentCheck (s : Sc) : Keeps A I (anchorIndentCheck s) := by
  unfold Sc.anchorIndentCheck; keeps
@[keeps] theorem Keeps.blockEntryTabCheck (r : SkipTabs) : Keeps A I (blockEntryTabCheck r) := by
  unfold Sc.blockEntryTabCheck; keeps
@[keeps] theorem Keeps.valueTabCheck : Keeps A I valueTabCheck := by unfold Sc.valueTabCheck; keeps

end SaphyrModel.Sc
