import SaphyrModel.Sc.Inv
/-! The structural invariant I1–I3 (`InvS`) through the functions that touch the indent stack, the simple keys and the
token queue, as Hoare triples `Tr`. A proof reads the state (`Tr.getS_bind`), follows the branches of the function
from that state, excludes the panic sites by what the invariant says of it, and ends at an edit; the edits are few, and
the lemmas `InvS.set…` say once for each what the invariant asks of it. -/
namespace SaphyrModel.Sc
open SaphyrModel

/-- Hoare triple: partial w.r.t. scan errors, total w.r.t. structural panic sites -/
def Tr (P : Sc → Prop) (m : S α) (Q : α → Sc → Prop) : Prop :=
  ∀ s, P s → match m s with
    | .ok (a, s') => Q a s'
    | .err _ => True
    | .panic p => ¬ StructSite p

theorem Tr.pure {P : Sc → Prop} {Q : α → Sc → Prop} (a : α) (h : ∀ s, P s → Q a s) :
    Tr P (Pure.pure a : S α) Q := fun s hs => h s hs

theorem Tr.bind {P : Sc → Prop} {R : α → Sc → Prop} {Q : β → Sc → Prop} {m : S α} {f : α → S β}
    (h1 : Tr P m R) (h2 : ∀ a, Tr (R a) (f a) Q) : Tr P (m >>= f) Q := by
  intro s hs
  have := h1 s hs
  simp only [Bind.bind]
  cases hm : m s with
  | ok r => obtain ⟨a, s'⟩ := r; simp only [hm] at this ⊢; exact h2 a s' this
  | err e => trivial
  | panic p => simp only [hm] at this ⊢; exact this

theorem Tr.conseq {P P' : Sc → Prop} {Q Q' : α → Sc → Prop} {m : S α}
    (h : Tr P m Q) (hp : ∀ s, P' s → P s) (hq : ∀ a s, Q a s → Q' a s) : Tr P' m Q' := by
  intro s hs
  have := h s (hp s hs)
  cases hm : m s with
  | ok r => obtain ⟨a, s'⟩ := r; simp only [hm] at this ⊢; exact hq a s' this
  | err e => trivial
  | panic p => simp only [hm] at this ⊢; exact this

theorem Tr.ite {P : Sc → Prop} {Q : α → Sc → Prop} {c : Prop} [Decidable c] {a b : S α}
    (ha : c → Tr P a Q) (hb : ¬ c → Tr P b Q) : Tr P (if c then a else b) Q := by
  split <;> rename_i h
  · exact ha h
  · exact hb h

theorem Tr.weaken {P P' : Sc → Prop} {Q : α → Sc → Prop} {m : S α} (h : Tr P m Q) (hp : ∀ s, P' s → P s) :
    Tr P' m Q := h.conseq hp fun _ _ h => h

theorem Tr.mono {P : Sc → Prop} {Q Q' : α → Sc → Prop} {m : S α} (h : Tr P m Q) (hq : ∀ a s, Q a s → Q' a s) :
    Tr P m Q' := h.conseq (fun _ h => h) hq

/-- Reading the state fixes it: `s` is the state, `P s` is known, and what follows starts in exactly `s`. A triple
is used at such a start by `Tr.call`; the rules `…_at` are the cases `pure` and `modS` of that. -/
theorem Tr.getS_bind {P : Sc → Prop} {Q : β → Sc → Prop} {f : Sc → S β}
    (h : ∀ s, P s → Tr (· = s) (f s) Q) : Tr P (getS >>= f) Q := fun s hs => h s hs s rfl

theorem Tr.call {P : Sc → Prop} {Q : α → Sc → Prop} {m : S α} {s : Sc} (h : Tr P m Q) (hs : P s) :
    Tr (· = s) m Q := h.weaken fun _ e => e ▸ hs

theorem Tr.pure_at {Q : α → Sc → Prop} {a : α} {s : Sc} (h : Q a s) : Tr (· = s) (Pure.pure a : S α) Q :=
  (Tr.pure a fun _ h => h).call h

theorem Tr.modS {Q : Unit → Sc → Prop} (f : Sc → Sc) : Tr (fun s => Q () (f s)) (modS f) Q :=
  fun _ hs => hs

theorem Tr.modS' {P : Sc → Prop} {Q : Unit → Sc → Prop} (f : Sc → Sc) (h : ∀ s, P s → Q () (f s)) :
    Tr P (SaphyrModel.Sc.modS f) Q := fun s hs => h s hs

theorem Tr.modS_at {Q : Unit → Sc → Prop} {f : Sc → Sc} {s : Sc} (h : Q () (f s)) :
    Tr (· = s) (SaphyrModel.Sc.modS f) Q := (Tr.modS f).call h

theorem Tr.modS_bind {P : Sc → Prop} {Q : β → Sc → Prop} {f : Sc → Sc} {g : Unit → S β}
    (h : ∀ s, P s → Tr (· = f s) (g ()) Q) : Tr P (SaphyrModel.Sc.modS f >>= g) Q := fun s hs => h s hs (f s) rfl

theorem Tr.err {P : Sc → Prop} {Q : α → Sc → Prop} (m : Marker) (msg : String) : Tr P (err m msg : S α) Q :=
  fun _ _ => trivial

theorem Tr.panicFuel {P : Sc → Prop} {Q : α → Sc → Prop} : Tr P (Sc.panicAt .fuel : S α) Q :=
  fun _ _ => by simp [Sc.panicAt, StructSite]

theorem Tr.iff {P : Sc → Prop} {m : S α} : Tr P m (fun _ => P) ↔ Keeps (¬ StructSite ·) P m := by
  constructor
  · intro h
    constructor <;> intro s <;> intros <;> rename_i hs hm <;> have := h s hs <;> rw [hm] at this <;> exact this
  · intro h s hs
    cases hm : m s with
    | ok r => exact h.ok hs hm
    | err e => trivial
    | panic p => exact h.panic hs hm

theorem Frames.tr {m : S α} (h : Frames m) {P : Sc → Prop} (hP : Stable P) : Tr P m (fun _ => P) :=
  Tr.iff.2 ⟨fun hs hm => hP _ _ hs ((Frames.iff.1 h _).ok (Frame.refl _) hm),
    fun _ hm => (Frames.iff.1 h _).panic (Frame.refl _) hm⟩

structure InvS (s : Sc) : Prop extends Inv s where
  started : s.streamStartProduced = true

theorem InvS.stable : Stable InvS := by
  intro s s' h f
  exact ⟨h.toInv.frame f, by rw [f.started]; exact h.started⟩

theorem InvS.keysLen {s : Sc} (h : InvS s) : s.simpleKeys.length = s.flowLevel + 1 := h.keys h.started

abbrev PresS (m : S α) : Prop := Tr InvS m (fun _ => InvS)

instance : Scan (¬ StructSite ·) InvS := InvS.stable.scan

theorem PresS.of {m : S α} (h : Keeps (¬ StructSite ·) InvS m) : PresS m := Tr.iff.2 h

theorem Keeps.frame {P : Sc → Prop} (hP : Stable P) {f : Sc → Sc} (h : ∀ s, Frame s (f s)) :
    Keeps (¬ StructSite ·) P (Sc.modS f) := Keeps.modS fun s hs => hP _ _ hs (h s)

/-- a frame that edits flags or the implicit-mapping states, or appends a token -/
macro "frame_edit" : tactic => `(tactic| first
  | exact ⟨rfl, rfl, rfl, rfl, rfl, rfl, ⟨[], (List.append_nil _).symm⟩⟩
  | exact ⟨rfl, rfl, rfl, rfl, rfl, rfl, ⟨[_], rfl⟩⟩)

/-- leaves of the `fetch_*` layer, for `InvS`: a function whose `PresS` lemma is tagged
`@[keeps]`, an edit that only frames -/
macro_rules | `(tactic| keeps_leaf) => `(tactic| first
  | (refine Tr.iff.1 ?_; simp only [keeps, *]; done)
  | ((with_reducible refine Keeps.frame InvS.stable fun _ => ?_); (try split) <;> frame_edit))

theorem tokenPos_tr (n : Nat) (P : Sc → Prop) (hn : ∀ s, P s → s.tokensParsed ≤ n) :
    Tr P (tokenPos n) (fun r s => P s ∧ r = n - s.tokensParsed) := by
  intro s hs
  have h : n ≥ s.tokensParsed := hn s hs
  simp only [tokenPos, h, if_true]
  exact ⟨hs, trivial⟩

theorem insertToken_tr (pos : Nat) (tok : Token) (P : Sc → Prop) (hp : ∀ s, P s → pos ≤ s.tokens.length) :
    Tr P (insertToken pos tok)
      (fun _ s' => ∃ s, P s ∧ s' = { s with tokens := s.tokens.take pos ++ [tok] ++ s.tokens.drop pos }) := by
  intro s hs
  have h : pos ≤ s.tokens.length := hp s hs
  simp only [insertToken, h, if_true]
  exact ⟨s, hs, rfl⟩

def NumOk (s : Sc) : Option Nat → Prop
  | none => True
  | some n => s.tokensParsed ≤ n ∧ n ≤ s.tokensParsed + s.tokens.length

theorem NumOk_of_eq {s s' : Sc} {n : Option Nat} (h : NumOk s n) (hp : s'.tokensParsed = s.tokensParsed)
    (ht : s'.tokens = s.tokens) : NumOk s' n := by
  cases n <;> simp_all [NumOk]

/-- a token inserted at the place that a token number within the queue stands for -/
theorem insertAt_tr {n : Nat} {tok : Token} {P Q : Sc → Prop} (hn : ∀ s, P s → NumOk s (some n))
    (hQ : ∀ s pos, P s → Q { s with tokens := s.tokens.take pos ++ [tok] ++ s.tokens.drop pos }) :
    Tr P (tokenPos n >>= fun pos => insertToken pos tok) (fun _ => Q) := by
  refine Tr.bind (tokenPos_tr n P fun s h => (hn s h).1) fun pos => ?_
  refine (insertToken_tr pos tok _ ?_).mono ?_
  · rintro s ⟨h, rfl⟩; have := (hn s h).2; omega
  · rintro _ _ ⟨s, ⟨h, _⟩, rfl⟩; exact hQ s _ h

/-! What the invariant asks of an edit of the queue, of the indent stack, of the keys and the flow level. -/

/-- inserting a token anywhere keeps the invariant (the queue only grows) -/
theorem InvS.insert {s : Sc} (h : InvS s) (pos : Nat) (tok : Token) :
    InvS { s with tokens := s.tokens.take pos ++ [tok] ++ s.tokens.drop pos } := by
  refine ⟨⟨h.ind, h.keys, fun sk hsk hp => ?_⟩, h.started⟩
  have := h.nums sk hsk hp
  simp only [List.length_append, List.length_take, List.length_drop, List.length_cons, List.length_nil]
  omega

theorem InvS.setIndent {s : Sc} (h : InvS s) {i : Int} {is : List Indent} (hw : WFInd i is) :
    InvS { s with indent := i, indents := is } := ⟨⟨hw, h.keys, h.nums⟩, h.started⟩

theorem InvS.indent_bottom {s : Sc} (h : InvS s) (hi : s.indents = []) : s.indent = -1 := by
  have := h.ind; rwa [hi] at this

theorem InvS.popIndent {s : Sc} (h : InvS s) {i : Indent} {is : List Indent} (hi : s.indents = i :: is) :
    InvS { s with indent := i.indent, indents := is } := h.setIndent (hi ▸ h.ind).2

theorem InvS.setKeys {s : Sc} (h : InvS s) {ks : List SimpleKey} {fl : Nat} (hl : ks.length = fl + 1)
    (hn : ∀ sk ∈ ks, sk.possible = true → NumOk s (some sk.tokenNumber)) :
    InvS { s with simpleKeys := ks, flowLevel := fl } := ⟨⟨h.ind, fun _ => hl, hn⟩, h.started⟩

theorem InvS.keys_ne {s : Sc} (h : InvS s) : s.simpleKeys ≠ [] := List.ne_nil_of_length_eq_add_one h.keysLen

theorem InvS.setHead {s : Sc} (h : InvS s) {k0 : SimpleKey} {ks : List SimpleKey} (hk : s.simpleKeys = k0 :: ks)
    (k : SimpleKey) (hn : k.possible = true → NumOk s (some k.tokenNumber)) :
    InvS { s with simpleKeys := k :: ks } :=
  h.setKeys (by simpa [hk] using h.keysLen) (List.forall_mem_cons.2 ⟨hn, fun sk m => h.nums sk (hk ▸ .tail _ m)⟩)

/-- an edit of the keys that at most clears `possible` -/
theorem InvS.mapKeys {s : Sc} (h : InvS s) {f : SimpleKey → SimpleKey}
    (hf : ∀ sk, f sk = sk ∨ (f sk).possible = false) : InvS { s with simpleKeys := s.simpleKeys.map f } :=
  h.setKeys (by rw [List.length_map, h.keysLen]) <| List.forall_mem_map.2 fun sk m => by
    rcases hf sk with e | e <;> rw [e]
    · exact h.nums sk m
    · nofun

@[keeps] theorem rollOneColIndent_pres : PresS rollOneColIndent := by
  unfold rollOneColIndent
  exact Tr.getS_bind fun s hs => Tr.ite (fun _ => Tr.modS_at (hs.setIndent ⟨Int.lt_succ _, hs.ind⟩)) fun _ =>
    Tr.pure_at hs

theorem WFInd_dropNonBlock (i : Int) (l : List Indent) (h : WFInd i l) :
    WFInd (unrollNonBlockIndents.go i l).1 (unrollNonBlockIndents.go i l).2 := by
  induction l generalizing i with
  | nil => simpa [unrollNonBlockIndents.go] using h
  | cons x xs ih =>
    simp only [unrollNonBlockIndents.go]
    split
    · exact h
    · exact ih _ h.2

@[keeps] theorem unrollNonBlockIndents_pres : PresS unrollNonBlockIndents :=
  Tr.modS' _ fun _ hs => hs.setIndent (WFInd_dropNonBlock _ _ hs.ind)

theorem clearHeadPossible_inv (s : Sc) (hs : InvS s) :
    InvS (match s.simpleKeys with
      | k :: ks => { s with simpleKeys := { k with possible := false } :: ks }
      | [] => s) := by
  split
  · exact hs.setHead ‹_› _ (nomatch ·)
  · exact hs

@[keeps] theorem removeSimpleKey_pres : PresS removeSimpleKey := by
  unfold removeSimpleKey
  refine Tr.getS_bind fun s hs => ?_
  cases hk : s.simpleKeys with
  | nil => exact (hs.keys_ne hk).elim
  | cons k ks => exact Tr.ite (fun _ => Tr.err _ _) fun _ => Tr.modS_at (hs.setHead hk _ (nomatch ·))

theorem requiredKey_tr {s : Sc} (hs : InvS s) : Tr (· = s) (requiredKey s) (fun _ s' => s' = s) := by
  unfold requiredKey
  refine Tr.ite (fun hc => ?_) fun _ => Tr.pure_at rfl
  cases hi : s.indents with
  | nil =>
    have := hs.indent_bottom hi
    simp only [Bool.and_eq_true, beq_iff_eq] at hc
    omega
  | cons i is => exact Tr.pure_at rfl

@[keeps] theorem saveSimpleKey_pres : PresS saveSimpleKey := by
  unfold saveSimpleKey
  refine Tr.getS_bind fun s hs => Tr.ite (fun _ => ?_) fun _ => Tr.pure_at hs
  refine Tr.bind (requiredKey_tr hs) fun req => Tr.modS_at ?_
  obtain ⟨k, ks, hk⟩ := List.exists_cons_of_ne_nil hs.keys_ne
  rw [hk]
  -- the new key stands for the token that comes next
  exact hs.setHead hk _ fun _ => ⟨Nat.le_add_right _ _, Nat.le_refl _⟩

theorem staleSimpleKeys_tr (T : List Token → Prop) :
    Tr (fun s => InvS s ∧ T s.tokens) staleSimpleKeys (fun _ s => InvS s ∧ T s.tokens) := by
  unfold staleSimpleKeys
  refine Tr.getS_bind fun s ⟨hs, ht⟩ => Tr.ite (fun _ => Tr.err _ _) fun _ => Tr.modS_at ⟨hs.mapKeys fun sk => ?_, ht⟩
  split
  · exact .inr rfl
  · exact .inl rfl

@[keeps] theorem staleSimpleKeys_pres : PresS staleSimpleKeys :=
  (staleSimpleKeys_tr fun _ => True).conseq (fun _ h => ⟨h, trivial⟩) fun _ _ h => h.1

@[keeps] theorem increaseFlowLevel_pres : PresS increaseFlowLevel := by
  unfold increaseFlowLevel
  -- between the two edits there is one key too many
  refine Tr.modS_bind fun s hs => Tr.getS_bind ?_
  rintro _ rfl
  exact Tr.ite (fun _ => Tr.err _ _) fun _ => Tr.modS_at <|
    hs.setKeys (congrArg (· + 1) hs.keysLen) (List.forall_mem_cons.2 ⟨nofun, hs.nums⟩)

@[keeps] theorem decreaseFlowLevel_pres : PresS decreaseFlowLevel := by
  unfold decreaseFlowLevel
  refine Tr.getS_bind fun s hs => Tr.ite (fun hpos => ?_) fun _ => Tr.pure_at hs
  cases hk : s.simpleKeys with
  | nil => exact (hs.keys_ne hk).elim
  | cons k ks =>
    have hl := hs.keysLen
    rw [hk, List.length_cons] at hl
    exact Tr.modS_at (hs.setKeys (by omega) fun sk m => hs.nums sk (hk ▸ .tail _ m))

theorem PresS.bind {m : S α} {f : α → S β} (h1 : PresS m) (h2 : ∀ a, PresS (f a)) : PresS (m >>= f) :=
  Tr.bind h1 h2
theorem Frames.presS {m : S α} (h : Frames m) : PresS m := h.tr InvS.stable

@[keeps] theorem pushTok_pres (sp : Span) (t : TokenType) : PresS (pushTok sp t) :=
  Frames.presS (Frames.modS _ fun _ => ⟨rfl, rfl, rfl, rfl, rfl, rfl, ⟨[_], rfl⟩⟩)

theorem unrollIndentGo_pres (col : Int) (hcol : -1 ≤ col) (fuel : Nat) : PresS (unrollIndentGo col fuel) := by
  induction fuel with
  | zero => unfold unrollIndentGo; exact Tr.panicFuel
  | succ n ih =>
    unfold unrollIndentGo
    refine Tr.getS_bind fun s hs => Tr.ite (fun hgt => ?_) fun _ => Tr.pure_at hs
    cases hi : s.indents with
    | nil =>
      have := hs.indent_bottom hi
      omega
    | cons i is => exact Tr.bind (R := fun _ => InvS) (Tr.modS_at (hs.popIndent hi)) fun _ => PresS.of (by keeps)

theorem unrollIndent_pres (col : Int) (hcol : -1 ≤ col) : PresS (unrollIndent col) := by
  have := unrollIndentGo_pres col hcol
  exact .of (by unfold unrollIndent; keeps)
/-- `unroll_indent` is called with -1 or with a column -/
macro_rules | `(tactic| keeps_leaf) => `(tactic| ((with_reducible refine Tr.iff.1 (unrollIndent_pres _ ?_)); omega))

theorem dropNonBlockTop_inv (col : Nat) (s : Sc) (hs : InvS s) : InvS (dropNonBlockTop col s) := by
  unfold dropNonBlockTop
  split
  · split
    · split
      · exact hs.popIndent ‹_›
      · exact hs
    · exact hs
  · exact hs

theorem dropNonBlockTop_toks (col : Nat) (s : Sc) :
    (dropNonBlockTop col s).tokens = s.tokens ∧ (dropNonBlockTop col s).tokensParsed = s.tokensParsed := by
  unfold dropNonBlockTop
  split
  · split
    · split <;> exact ⟨rfl, rfl⟩
    · exact ⟨rfl, rfl⟩
  · exact ⟨rfl, rfl⟩

theorem rollIndentPush_pres (col : Nat) (number : Option Nat) (tok : TokenType) (mark : Marker) :
    Tr (fun s => InvS s ∧ NumOk s number) (rollIndentPush col number tok mark) (fun _ => InvS) := by
  unfold rollIndentPush
  refine Tr.getS_bind fun s ⟨hs, hn⟩ => Tr.ite (fun hlt => ?_) fun _ => Tr.pure_at hs
  refine Tr.bind (R := fun _ s => InvS s ∧ NumOk s number) (Tr.modS_at ⟨hs.setIndent ⟨hlt, hs.ind⟩, hn⟩) fun _ => ?_
  cases number with
  | none => exact (pushTok_pres _ _).weaken fun _ h => h.1
  | some n => exact insertAt_tr (fun _ h => h.2) fun _ _ h => h.1.insert _ _

theorem rollIndent_pres (col : Nat) (number : Option Nat) (tok : TokenType) (mark : Marker) :
    Tr (fun s => InvS s ∧ NumOk s number) (rollIndent col number tok mark) (fun _ => InvS) := by
  unfold rollIndent
  refine Tr.getS_bind fun s ⟨hs, hn⟩ => Tr.ite (fun _ => Tr.pure_at hs) fun _ => ?_
  have ht := dropNonBlockTop_toks col s
  exact Tr.bind (Tr.modS_at ⟨dropNonBlockTop_inv col s hs, NumOk_of_eq hn ht.2 ht.1⟩) fun _ =>
    rollIndentPush_pres col number tok mark

def HeadKey (sk : SimpleKey) (s : Sc) : Prop := InvS s ∧ s.simpleKeys.head? = some sk

theorem HeadKey.numOk {sk : SimpleKey} {s : Sc} (h : HeadKey sk s) (hp : sk.possible = true) :
    NumOk s (some sk.tokenNumber) := h.1.nums sk (List.mem_of_head? h.2) hp

theorem insertAtKey_tr (sk : SimpleKey) (hp : sk.possible = true) (tok : Token) :
    Tr (HeadKey sk) (tokenPos sk.tokenNumber >>= fun pos => insertToken pos tok) (fun _ => HeadKey sk) :=
  insertAt_tr (fun _ h => h.numOk hp) fun _ _ h => ⟨h.1.insert _ _, h.2⟩

theorem valueAfterSimpleKey_pres (sk : SimpleKey) (hp : sk.possible = true) (startMark : Marker) (imp : Bool) :
    Tr (HeadKey sk) (valueAfterSimpleKey sk startMark imp) (fun _ => InvS) := by
  unfold valueAfterSimpleKey
  rw [← bind_assoc]  -- `tokenPos >>= insertToken` as one step: `insertAtKey_tr`
  refine Tr.bind (insertAtKey_tr sk hp _) fun _ => Tr.bind (R := fun _ => HeadKey sk) ?_ fun _ => ?_
  · exact Tr.ite (fun _ => Tr.ite (fun _ => Tr.err _ _) fun _ => insertAtKey_tr sk hp _) fun _ => Tr.pure _ fun _ h => h
  · refine Tr.bind ((rollIndent_pres _ _ _ _).weaken fun _ h => ⟨h.1, h.numOk hp⟩) fun _ => ?_
    exact PresS.bind rollOneColIndent_pres fun _ => PresS.bind (Tr.modS' _ clearHeadPossible_inv) fun _ =>
      .of Keeps.disallowSimpleKey

@[keeps] theorem rollIndent_none_pres (col : Nat) (tok : TokenType) (mark : Marker) :
    PresS (rollIndent col none tok mark) :=
  (rollIndent_pres col none tok mark).weaken fun _ h => ⟨h, trivial⟩

@[keeps] theorem valueAfterComplexKey_pres (startMark : Marker) (imp : Bool) :
    PresS (valueAfterComplexKey startMark imp) :=
  .of (by unfold valueAfterComplexKey; keeps)

theorem NoStruct.ofNoPanic {m : M In α} (h : ∀ i p, m i ≠ .panic p) : NoStruct m :=
  ⟨fun i p hp => absurd hp (h i p)⟩

end SaphyrModel.Sc
