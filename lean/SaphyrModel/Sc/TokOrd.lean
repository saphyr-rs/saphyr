import SaphyrModel.Sc.MI
/-! C12, "each span starts no later than it ends", for every token the scanner queues — every input, every back-end.
The argument is the same for the index and for the line of the marks, so it is made once for a coordinate `μ` of the
mark that no scanner function decreases (`Coord`). A token's span runs from a mark read before its text was
consumed to one read afterwards. -/
namespace SaphyrModel.Sc
open SaphyrModel

section
variable (μ : Marker → Nat)

def Ordered (t : Token) : Prop := μ t.span.start ≤ μ t.span.stop

structure Ret (lo : Nat) (m : S α) (Q : α → Prop) : Prop where
  out : ∀ {s a s'}, lo ≤ μ s.mark → m s = .ok (a, s') → Q a

def Queue (lo : Nat) (s : Sc) : Prop := lo ≤ μ s.mark ∧ ∀ t ∈ s.tokens, Ordered μ t

abbrev Queued (lo : Nat) (m : S α) : Prop := Keeps (fun _ => True) (Queue μ lo) m
end

namespace Ret
variable {μ : Marker → Nat} {lo : Nat} {Q : β → Prop}

theorem pure {b : β} (h : Q b) : Ret μ lo (Pure.pure b : S β) Q := ⟨fun _ hm => by cases hm; exact h⟩
theorem err (m : Marker) (msg : String) : Ret μ lo (Sc.err m msg : S β) Q := ⟨fun _ hm => nomatch hm⟩
theorem fuel : Ret μ lo (panicAt .fuel : S β) Q := ⟨fun _ hm => nomatch hm⟩
theorem ite {c : Prop} [Decidable c] {a b : S β} (ha : Ret μ lo a Q) (hb : Ret μ lo b Q) :
    Ret μ lo (if c then a else b) Q := by split <;> assumption
theorem weaken {lo' : Nat} {m : S β} (h : Ret μ lo m Q) (hle : lo ≤ lo') : Ret μ lo' m Q :=
  ⟨fun hlo hm => h.out (Nat.le_trans hle hlo) hm⟩

/-- what comes first only has to leave the mark at `lo` or beyond -/
theorem bind {m : S α} {f : α → S β} (h1 : Mono μ m) (h2 : ∀ a, Ret μ lo (f a) Q) : Ret μ lo (m >>= f) Q := by
  constructor
  intro s b s' hlo h
  obtain ⟨a, s1, hm, hf⟩ := bind_ok_iff.1 h
  exact (h2 a).out ((h1 lo).ok hlo hm) hf
/-- … unless the rest needs to know something about what it returned -/
theorem bindAcc {P : α → Prop} {m : S α} {f : α → S β} (h1 : Mono μ m) (hP : Ret μ lo m P)
    (h2 : ∀ a, P a → Ret μ lo (f a) Q) : Ret μ lo (m >>= f) Q := by
  constructor
  intro s b s' hlo h
  obtain ⟨a, s1, hm, hf⟩ := bind_ok_iff.1 h
  exact (h2 a (hP.out hlo hm)).out ((h1 lo).ok hlo hm) hf
/-- in particular when it returns what the rest goes on with: a token, an accumulator -/
theorem bindRet {m : S β} {f : β → S β} (h1 : Mono μ m) (hP : Ret μ lo m Q)
    (h2 : ∀ a, Q a → Ret μ lo (f a) Q) : Ret μ lo (m >>= f) Q := bindAcc h1 hP h2
/-- a mark that is read is at `lo` or beyond, and the mark stays beyond it from there on -/
theorem getS_bind {f : Sc → S β} (h : ∀ s0 : Sc, lo ≤ μ s0.mark → Ret μ (μ s0.mark) (f s0) Q) :
    Ret μ lo (getS >>= f) Q := ⟨fun {s _ _} hlo hm => (h s hlo).out (Nat.le_refl _) hm⟩
theorem getMark_bind {f : Marker → S β} (h : ∀ sm : Marker, lo ≤ μ sm → Ret μ (μ sm) (f sm) Q) :
    Ret μ lo (getMark >>= f) Q := getS_bind (f := fun s => f s.mark) fun s => h s.mark

theorem pure_bind {a : α} {f : α → S β} (h : Ret μ lo (f a) Q) : Ret μ lo (Pure.pure a >>= f) Q := h
/-- a join point, as `Keeps.cut`; a jump to it happens with the mark at `lo` or beyond (`weaken`) -/
theorem cut {jp : γ → S β} {m : S β} (h1 : ∀ x, Ret μ lo (jp x) Q)
    (h2 : (∀ x, Ret μ lo (jp x) Q) → Ret μ lo m Q) : Ret μ lo m Q := h2 h1
/-- a join point that is handed a value of the kind that is returned in the end: it may assume `Q` of it -/
theorem cutQ {jp : β → S β} {m : S β} (h1 : ∀ x, Q x → Ret μ lo (jp x) Q)
    (h2 : (∀ x, Q x → Ret μ lo (jp x) Q) → Ret μ lo m Q) : Ret μ lo m Q := h2 h1

end Ret

/-- `ret` goes through a function that returns a value built from marks it has read: `Ret.getMark_bind` and
`Ret.getS_bind` put the order of those marks into the context, a returned value is checked against it. -/
syntax "ret" : tactic
macro "ret_jp" : tactic => `(tactic| focus
  (extract_lets +onlyGivenNames jp
   first
   | (refine Ret.cutQ (jp := jp) ?_ ?_; rotate_left; intro hjp; clear_value jp; rotate_left; intro x hx; unfold jp)
   | (refine Ret.cut (jp := jp) ?_ ?_; rotate_left; intro hjp; clear_value jp; rotate_left; intro x; unfold jp)
   | clear_value jp))
macro_rules | `(tactic| ret) => `(tactic| repeat' (first
  | intro _
  | (guard_target = Keeps _ _ _; keeps)
  | ret_jp
  | with_reducible apply Ret.getMark_bind
  | with_reducible apply Ret.getS_bind
  | with_reducible apply Ret.pure_bind
  | (with_reducible refine Ret.bindRet (fun _ => ?_) ?_ fun _ _ => ?_)
  | (with_reducible refine Ret.bind (fun _ => ?_) fun _ => ?_)
  | with_reducible apply Ret.ite
  | with_reducible exact Ret.err _ _
  | with_reducible exact Ret.fuel
  -- a hypothesis (the induction hypothesis, a join point) was stated before a mark was read: it holds from a smaller `lo`
  | (refine Ret.weaken (by with_reducible apply_assumption -exfalso <;> first | assumption | (dsimp only; omega)) (by omega))
  | ((with_reducible refine Ret.pure ?_); first | assumption | (unfold Ordered; dsimp only; omega))))

namespace Queue
variable {μ : Marker → Nat} {lo : Nat}

theorem getS_bind {f : Sc → S β} (h : ∀ s0 : Sc, lo ≤ μ s0.mark → Queued μ (μ s0.mark) (f s0)) :
    Queued μ lo (getS >>= f) :=
  ⟨fun {s _ _} hs hm => ⟨Nat.le_trans hs.1 ((h s hs.1).ok ⟨Nat.le_refl _, hs.2⟩ hm).1,
    ((h s hs.1).ok ⟨Nat.le_refl _, hs.2⟩ hm).2⟩, fun _ _ => trivial⟩
theorem getMark_bind {f : Marker → S β} (h : ∀ sm : Marker, lo ≤ μ sm → Queued μ (μ sm) (f sm)) :
    Queued μ lo (getMark >>= f) := getS_bind (f := fun s => f s.mark) fun s => h s.mark

theorem append {tok : Token} (h : Ordered μ tok) {g : Sc → Sc} (hm : ∀ s, (g s).mark = s.mark)
    (ht : ∀ s, (g s).tokens = s.tokens ++ [tok]) : Queued μ lo (modS g) :=
  Keeps.modS fun s hs => ⟨by rw [hm]; exact hs.1, fun t => by
    rw [ht, List.mem_append, List.mem_singleton]
    rintro (h' | rfl)
    · exact hs.2 t h'
    · exact h⟩

theorem pushTok (sp : Span) (t : TokenType) (h : μ sp.start ≤ μ sp.stop) :
    Queued μ lo (pushTok sp t) :=
  append (tok := ⟨sp, t⟩) h (fun _ => rfl) fun _ => rfl

theorem insertToken (pos : Nat) (tok : Token) (h : Ordered μ tok) :
    Queued μ lo (insertToken pos tok) := by
  unfold Sc.insertToken
  refine ⟨fun hs hm => ?_, fun _ _ => trivial⟩
  split at hm <;> cases hm
  refine ⟨hs.1, fun t ht => ?_⟩
  simp only [List.mem_append, List.mem_singleton] at ht
  rcases ht with (ht | rfl) | ht
  · exact hs.2 t (List.mem_of_mem_take ht)
  · exact h
  · exact hs.2 t (List.mem_of_mem_drop ht)

/-- a scanner that returns an ordered token, then something that queues it -/
theorem bindTok {m : S Token} {f : Token → S β} (hk :
    Queued μ lo m) (ht : Ret μ lo m (Ordered μ))
    (h2 : ∀ tok, Ordered μ tok → Queued μ lo (f tok)) :
    Queued μ lo (m >>= f) := by
  refine ⟨fun hs h => ?_, fun _ _ => trivial⟩
  obtain ⟨tok, s1, hm, hf⟩ := bind_ok_iff.1 h
  exact (h2 tok (ht.out hs.1 hm)).ok (hk.ok hs hm) hf

/-- a join point, as `Keeps.cut`, for every bound: a jump to it happens after marks have been read -/
theorem cut {jp : γ → S β} {m : S α} (h1 : ∀ lo' x, Queued μ lo' (jp x))
    (h2 : (∀ lo' x, Queued μ lo' (jp x)) → Queued μ lo m) :
    Queued μ lo m := h2 h1

end Queue

theorem popToken_ordered {μ : Marker → Nat} {s : Sc} {r : Option Token} {s' : Sc} (ho : ∀ t ∈ s.tokens, Ordered μ t)
    (h : popToken s = .ok (r, s')) : (∀ t ∈ s'.tokens, Ordered μ t) ∧ ∀ t, r = some t → Ordered μ t := by
  unfold Sc.popToken at h
  simp only [Bind.bind, getS] at h
  cases ht : s.tokens with
  | nil => simp [ht, Sc.err, throwE] at h
  | cons t ts =>
    simp only [ht, modS, Pure.pure] at h
    cases h
    rw [ht] at ho
    exact ⟨fun x hx => ho x (by simp [hx]), fun x hx => by cases hx; exact ho t (by simp)⟩

section
variable {μ : Marker → Nat} [Coord μ]

@[keeps] theorem Ret.scanAnchor (alias : Bool) (lo : Nat) : Ret μ lo (scanAnchor alias) (Ordered μ) := by
  unfold Sc.scanAnchor; ret

@[keeps] theorem Ret.scanFlowScalar (single : Bool) (lo : Nat) : Ret μ lo (scanFlowScalar single) (Ordered μ) := by
  unfold Sc.scanFlowScalar; ret

theorem Ret.blockContent (lit : Bool) (ch : Chomping) (ind : Nat) (tb : Str) (s : Sc) (lo : Nat) (hs : μ s.mark ≤ lo) :
    Ret μ lo (blockContent lit ch ind tb s) (Ordered μ) := by
  unfold Sc.blockContent; ret

theorem Ret.blockAfterHeader (lit : Bool) (sm : Marker) (ch : Chomping) (inc : Nat) (cb : Str) (lo : Nat)
    (hs : μ sm ≤ lo) : Ret μ lo (blockAfterHeader lit sm ch inc cb) (Ordered μ) := by
  unfold Sc.blockAfterHeader; ret
  exact Ret.blockContent _ _ _ _ _ _ (Nat.le_refl _)

theorem Ret.scanBlockScalarBody (lit : Bool) (sm : Marker) (lo : Nat) (hs : μ sm ≤ lo) :
    Ret μ lo (scanBlockScalarBody lit sm) (Ordered μ) := by
  unfold Sc.scanBlockScalarBody; ret
  exact Ret.blockAfterHeader _ _ _ _ _ _ hs

@[keeps] theorem Ret.scanBlockScalar (lit : Bool) (lo : Nat) : Ret μ lo (scanBlockScalar lit) (Ordered μ) := by
  unfold Sc.scanBlockScalar; ret
  exact Ret.scanBlockScalarBody _ _ _ (Nat.le_refl _)

theorem Ret.scanVersionDirectiveValue (mark : Marker) (lo : Nat) (h : μ mark ≤ lo) :
    Ret μ lo (scanVersionDirectiveValue mark) (Ordered μ) := by
  unfold Sc.scanVersionDirectiveValue; ret
theorem Ret.scanTagDirectiveValue (mark : Marker) (lo : Nat) (h : μ mark ≤ lo) :
    Ret μ lo (scanTagDirectiveValue mark) (Ordered μ) := by
  unfold Sc.scanTagDirectiveValue; ret

/-- the token comes from one of three places and is returned after the rest of the line has been skipped -/
@[keeps] theorem Ret.scanDirective (lo : Nat) : Ret μ lo scanDirective (Ordered μ) := by
  unfold Sc.scanDirective
  apply Ret.getMark_bind; intro sm hsm
  refine Ret.bind (fun _ => by keeps) fun _ => Ret.bind (fun _ => by keeps) fun name => ?_
  extract_lets rest
  have hrest : ∀ tok, Ordered μ tok → Ret μ (μ sm) (rest tok) (Ordered μ) := by intro tok _; unfold rest; ret
  clear_value rest
  split
  · exact Ret.bindRet (fun _ => by keeps) (Ret.scanVersionDirectiveValue sm _ (Nat.le_refl _)) hrest
  · split
    · exact Ret.bindRet (fun _ => by keeps) (Ret.scanTagDirectiveValue sm _ (Nat.le_refl _)) hrest
    · refine Ret.bind (fun _ => by keeps) fun n => Ret.bind (fun _ => by keeps) fun _ => ?_
      apply Ret.getMark_bind; intro em hem
      exact Ret.bindRet (fun _ => Keeps.pure _) (Ret.pure hem) fun tok ht => (hrest tok ht).weaken hem

@[keeps] theorem Ret.scanTag (lo : Nat) : Ret μ lo scanTag (Ordered μ) := by
  unfold Sc.scanTag; ret

/-- plain scalars: the end mark travels in the accumulator; it never falls behind `b`, where the scalar starts -/
theorem Ret.plainBlanks (indent : Int) (sm : Marker) (b : Nat) (fuel : Nat) : ∀ a, b ≤ μ a.endMark →
    Ret μ b (plainBlanks indent sm fuel a) (fun a' => b ≤ μ a'.endMark) := by
  induction fuel <;> intro a ha <;> unfold Sc.plainBlanks <;> ret

theorem Ret.plainLoop (indent : Int) (sm : Marker) (b : Nat) (fuel : Nat) : ∀ a, b ≤ μ a.endMark →
    Ret μ b (plainLoop indent sm fuel a) (fun a' => b ≤ μ a'.endMark) := by
  have := Ret.plainBlanks (μ := μ) indent sm b
  induction fuel <;> intro a ha <;> unfold Sc.plainLoop <;> ret

theorem Ret.scanPlainScalarBody (lo : Nat) : Ret μ lo scanPlainScalarBody (Ordered μ) := by
  unfold Sc.scanPlainScalarBody
  apply Ret.getS_bind; intro s0 h0
  refine Ret.ite (Ret.err _ _) (Ret.bindAcc (fun _ => by keeps) (Ret.plainLoop _ _ _ _ _ (Nat.le_refl _)) fun a ha => ?_)
  ret

@[keeps] theorem Ret.scanPlainScalar (lo : Nat) : Ret μ lo scanPlainScalar (Ordered μ) := by
  unfold Sc.scanPlainScalar; ret
  exact Ret.scanPlainScalarBody _

/-- the scanning functions and the bookkeeping keep the queue as it is and the mark moving forward -/
instance (lo : Nat) : Book (fun _ => True) (Queue μ lo) :=
  .ofBlind trivial (fun _ h => h)
    (fun ha h => ⟨Nat.le_trans h.1 (Coord.mono ha.index ha.line), by rw [ha.rest]; exact h.2⟩)
    fun hu h => ⟨by rw [hu.mark]; exact h.1, by rw [hu.tokens]; exact h.2⟩

macro_rules | `(tactic| keeps_jp) => `(tactic| focus
  (extract_lets +onlyGivenNames jp
   refine Queue.cut (jp := jp) ?_ ?_; rotate_left; intro hjp; clear_value jp; rotate_left; intro lo' x; unfold jp))
macro_rules | `(tactic| keeps_node) => `(tactic| first
  | with_reducible apply Queue.getMark_bind | with_reducible apply Queue.getS_bind
  | with_reducible apply Queue.bindTok)
macro_rules | `(tactic| keeps_leaf) => `(tactic| first
  | ((with_reducible refine Queue.append (by assumption) (fun _ => ?_) fun _ => ?_) <;> rfl)
  | ((with_reducible refine Queue.pushTok _ _ ?_); first | exact Nat.le_refl _ | (dsimp only; omega))
  | ((with_reducible refine Queue.insertToken _ _ ?_); exact Nat.le_refl _))

@[keeps] theorem Queue.rollIndentPush (col n tok mark) (lo : Nat) :
    Queued μ lo (rollIndentPush col n tok mark) := by
  unfold Sc.rollIndentPush; keeps

@[keeps] theorem Queue.rollIndent (col n tok mark) (lo : Nat) :
    Queued μ lo (rollIndent col n tok mark) := by
  unfold Sc.rollIndent; keeps
@[keeps] theorem Queue.unrollIndentGo (col : Int) (fuel : Nat) :
    ∀ lo, Queued μ lo (unrollIndentGo col fuel) := by
  induction fuel <;> intro lo <;> unfold Sc.unrollIndentGo <;> keeps
@[keeps] theorem Queue.unrollIndent (col : Int) (lo : Nat) : Queued μ lo (unrollIndent col) := by
  unfold Sc.unrollIndent; keeps
@[keeps] theorem Queue.endImplicitMapping (m : Marker) (lo : Nat) :
    Queued μ lo (endImplicitMapping m) := by
  unfold Sc.endImplicitMapping; keeps
@[keeps] theorem Queue.fetchStreamStart (lo : Nat) : Queued μ lo fetchStreamStart := by
  unfold Sc.fetchStreamStart; keeps
@[keeps] theorem Queue.fetchStreamEnd (lo : Nat) : Queued μ lo fetchStreamEnd := by
  unfold Sc.fetchStreamEnd
  -- the end of the stream forces the mark to the start of a next line
  refine Keeps.bind (Keeps.modS fun s hs => ?_) fun _ => by keeps
  split
  · exact ⟨Nat.le_trans hs.1 (Coord.mono (Nat.le_refl _) (Nat.le_succ _)), hs.2⟩
  · exact hs
@[keeps] theorem Queue.fetchFlowCollectionStart (t : TokenType) (lo : Nat) :
    Queued μ lo (fetchFlowCollectionStart t) := by
  unfold Sc.fetchFlowCollectionStart; keeps
@[keeps] theorem Queue.closeFlowState (t : TokenType) (lo : Nat) :
    Queued μ lo (closeFlowState t) := by
  unfold Sc.closeFlowState; keeps
@[keeps] theorem Queue.fetchFlowCollectionEnd (t : TokenType) (lo : Nat) :
    Queued μ lo (fetchFlowCollectionEnd t) := by
  unfold Sc.fetchFlowCollectionEnd; keeps
@[keeps] theorem Queue.fetchFlowEntry (lo : Nat) : Queued μ lo fetchFlowEntry := by
  unfold Sc.fetchFlowEntry; keeps
@[keeps] theorem Queue.fetchBlockEntryTail (lo : Nat) : Queued μ lo fetchBlockEntryTail := by
  unfold Sc.fetchBlockEntryTail; keeps
@[keeps] theorem Queue.fetchBlockEntryBody (s : Sc) (lo : Nat) :
    Queued μ lo (fetchBlockEntryBody s) := by
  unfold Sc.fetchBlockEntryBody; keeps
@[keeps] theorem Queue.fetchBlockEntry (lo : Nat) : Queued μ lo fetchBlockEntry := by
  unfold Sc.fetchBlockEntry; keeps
@[keeps] theorem Queue.fetchDocumentIndicator (t : TokenType) (lo : Nat) :
    Queued μ lo (fetchDocumentIndicator t) := by
  unfold Sc.fetchDocumentIndicator; keeps

@[keeps] theorem Queue.fetchDirective (lo : Nat) : Queued μ lo fetchDirective := by
  unfold Sc.fetchDirective; keeps
@[keeps] theorem Queue.fetchTag (lo : Nat) : Queued μ lo fetchTag := by
  unfold Sc.fetchTag; keeps
@[keeps] theorem Queue.fetchAnchor (a : Bool) (lo : Nat) : Queued μ lo (fetchAnchor a) := by
  unfold Sc.fetchAnchor; keeps
@[keeps] theorem Queue.fetchBlockScalar (lit : Bool) (lo : Nat) :
    Queued μ lo (fetchBlockScalar lit) := by
  unfold Sc.fetchBlockScalar; keeps
@[keeps] theorem Queue.fetchFlowScalar (single : Bool) (lo : Nat) :
    Queued μ lo (fetchFlowScalar single) := by
  unfold Sc.fetchFlowScalar; keeps
@[keeps] theorem Queue.fetchPlainScalar (lo : Nat) : Queued μ lo fetchPlainScalar := by
  unfold Sc.fetchPlainScalar; keeps
@[keeps] theorem Queue.keyPrologue (s : Sc) (lo : Nat) : Queued μ lo (keyPrologue s) := by
  unfold Sc.keyPrologue; keeps
@[keeps] theorem Queue.fetchKeyTail (m : Marker) (lo : Nat) (h : μ m ≤ lo) :
    Queued μ lo (fetchKeyTail m) := by
  unfold Sc.fetchKeyTail; keeps
@[keeps] theorem Queue.fetchKey (lo : Nat) : Queued μ lo fetchKey := by
  unfold Sc.fetchKey; keeps
@[keeps] theorem Queue.valueAfterSimpleKey (sk m i) (lo : Nat) :
    Queued μ lo (valueAfterSimpleKey sk m i) := by
  unfold Sc.valueAfterSimpleKey; keeps
@[keeps] theorem Queue.valueAfterComplexKey (m i) (lo : Nat) :
    Queued μ lo (valueAfterComplexKey m i) := by
  unfold Sc.valueAfterComplexKey; keeps
@[keeps] theorem Queue.fetchValue (lo : Nat) : Queued μ lo fetchValue := by
  unfold Sc.fetchValue; keeps
@[keeps] theorem Queue.fetchFlowValue (lo : Nat) : Queued μ lo fetchFlowValue := by
  unfold Sc.fetchFlowValue; keeps
@[keeps] theorem Queue.fetchDocumentEndMarker (lo : Nat) :
    Queued μ lo fetchDocumentEndMarker := by
  unfold Sc.fetchDocumentEndMarker; keeps
@[keeps] theorem Queue.fetchSpecial (lo : Nat) : Queued μ lo fetchSpecial := by
  unfold Sc.fetchSpecial; keeps
@[keeps] theorem Queue.fetchDispatch (lo : Nat) : Queued μ lo fetchDispatch := by
  unfold Sc.fetchDispatch; keeps
@[keeps] theorem Queue.fetchAfterStart (lo : Nat) : Queued μ lo fetchAfterStart := by
  unfold Sc.fetchAfterStart; keeps
@[keeps] theorem Queue.fetchNextToken (lo : Nat) : Queued μ lo fetchNextToken := by
  unfold Sc.fetchNextToken; keeps
@[keeps] theorem Queue.fetchMoreTokens (fuel : Nat) :
    ∀ lo, Queued μ lo (fetchMoreTokens fuel) := by
  induction fuel <;> intro lo <;> unfold Sc.fetchMoreTokens <;> keeps

/-- The queue invariant with `lo = 0`: between two calls nothing is known of the mark, and nothing is needed. -/
theorem nextToken_ordered {s : Sc} {r : Option Token} {s' : Sc} (ho : ∀ t ∈ s.tokens, Ordered μ t)
    (h : nextToken s = .ok (r, s')) : (∀ t ∈ s'.tokens, Ordered μ t) ∧ ∀ t, r = some t → Ordered μ t := by
  unfold Sc.nextToken at h
  obtain ⟨s0, s1, h0, h⟩ := bind_ok_iff.1 h
  cases h0
  split at h
  · cases h; exact ⟨ho, nofun⟩
  · obtain ⟨_, s2, hf, h⟩ := bind_ok_iff.1 h
    refine popToken_ordered ?_ h
    split at hf
    · exact ((Queue.fetchMoreTokens (μ := μ) _ 0).ok ⟨Nat.zero_le _, ho⟩ hf).2
    · cases hf; exact ho

theorem scanAll_ordered (fuel : Nat) : ∀ (s : Sc) (acc : List Token), (∀ t ∈ s.tokens, Ordered μ t) →
    (∀ t ∈ acc, Ordered μ t) → ∀ t ∈ (scanAll fuel s acc).1, Ordered μ t := by
  induction fuel with
  | zero => intro s acc _ ha t ht; exact ha t (by simpa [scanAll] using ht)
  | succ n ih =>
    intro s acc ho ha
    simp only [scanAll]
    cases hn : nextToken s with
    | ok q =>
      obtain ⟨r, s'⟩ := q
      obtain ⟨h1, h2⟩ := nextToken_ordered ho hn
      cases r with
      | some t =>
        refine ih s' (t :: acc) h1 fun x hx => ?_
        rcases List.mem_cons.mp hx with rfl | hx
        · exact h2 _ rfl
        · exact ha x hx
      | none => intro t ht; exact ha t (by simpa using ht)
    | err e => intro t ht; exact ha t (by simpa using ht)
    | panic p => intro t ht; exact ha t (by simpa using ht)

end

/-! The two coordinates, under the names the property theorems use. -/

def TokOk (t : Token) : Prop := t.span.start.index ≤ t.span.stop.index
def TokOrd (l : List Token) : Prop := ∀ t ∈ l, TokOk t
def TokOkL (t : Token) : Prop := t.span.start.line ≤ t.span.stop.line
def TokOrdL (l : List Token) : Prop := ∀ t ∈ l, TokOkL t

structure TS (lo : Nat) (m : S Token) : Prop where
  out : ∀ s tok s', lo ≤ s.mark.index → m s = .ok (tok, s') → tok.span.start.index ≤ tok.span.stop.index
structure TSL (lo : Nat) (m : S Token) : Prop where
  out : ∀ s tok s', lo ≤ s.mark.line → m s = .ok (tok, s') → tok.span.start.line ≤ tok.span.stop.line
structure EM (lo : Nat) (m : S PlAcc) : Prop where
  out : ∀ s a s', lo ≤ s.mark.index → m s = .ok (a, s') → lo ≤ a.endMark.index
structure EML (lo : Nat) (m : S PlAcc) : Prop where
  out : ∀ s a s', lo ≤ s.mark.line → m s = .ok (a, s') → lo ≤ a.endMark.line
structure TPL (lo : Nat) (m : S α) : Prop where
  out : ∀ s a s', lo ≤ s.mark.index → TokOrd s.tokens → m s = .ok (a, s') → TokOrd s'.tokens
structure TPLL (lo : Nat) (m : S α) : Prop where
  out : ∀ s a s', lo ≤ s.mark.line → TokOrdL s.tokens → m s = .ok (a, s') → TokOrdL s'.tokens

theorem TS.of {lo : Nat} {m : S Token} (h : Ret Marker.index lo m (Ordered Marker.index)) : TS lo m :=
  ⟨fun _ _ _ hlo hm => h.out hlo hm⟩
theorem TSL.of {lo : Nat} {m : S Token} (h : Ret Marker.line lo m (Ordered Marker.line)) : TSL lo m :=
  ⟨fun _ _ _ hlo hm => h.out hlo hm⟩
theorem TPL.of {lo : Nat} {m : S α} (h : Queued Marker.index lo m) : TPL lo m :=
  ⟨fun _ _ _ hlo ho hm => (h.ok ⟨hlo, ho⟩ hm).2⟩
theorem TPLL.of {lo : Nat} {m : S α} (h : Queued Marker.line lo m) : TPLL lo m :=
  ⟨fun _ _ _ hlo ho hm => (h.ok ⟨hlo, ho⟩ hm).2⟩

theorem TokOrd.single {t : Token} (h : TokOk t) : TokOrd [t] := by
  intro x hx; simp at hx; subst hx; exact h
theorem TokOrdL.single {t : Token} (h : TokOkL t) : TokOrdL [t] := by
  intro x hx; simp at hx; subst hx; exact h
theorem TS.mono {lo lo' : Nat} {m : S Token} (h : TS lo m) (hle : lo ≤ lo') : TS lo' m :=
  ⟨fun s tok s' hlo hh => h.out s tok s' (Nat.le_trans hle hlo) hh⟩
theorem TSL.mono {lo lo' : Nat} {m : S Token} (h : TSL lo m) (hle : lo ≤ lo') : TSL lo' m :=
  ⟨fun s tok s' hlo hh => h.out s tok s' (Nat.le_trans hle hlo) hh⟩
theorem EM.ite {lo : Nat} {c : Prop} [Decidable c] {a b : S PlAcc} (ha : EM lo a) (hb : EM lo b) : EM lo (if c then a else b) := by
  split <;> assumption
theorem EML.ite {lo : Nat} {c : Prop} [Decidable c] {a b : S PlAcc} (ha : EML lo a) (hb : EML lo b) : EML lo (if c then a else b) := by
  split <;> assumption
theorem TPL.insertToken {lo : Nat} (pos : Nat) (tok : Token) (h : TokOk tok) : TPL lo (insertToken pos tok) :=
  .of (Queue.insertToken pos tok h)
theorem TPLL.insertToken {lo : Nat} (pos : Nat) (tok : Token) (h : TokOkL tok) : TPLL lo (insertToken pos tok) :=
  .of (Queue.insertToken pos tok h)

theorem TS.scanFlowScalar (single : Bool) (lo : Nat) : TS lo (scanFlowScalar single) :=
  .of (Ret.scanFlowScalar single lo)
theorem TS.blockContent (lit : Bool) (ch : Chomping) (ind : Nat) (tb : Str) (s : Sc) (lo : Nat) (hs : s.mark.index ≤ lo) :
    TS lo (blockContent lit ch ind tb s) := .of (Ret.blockContent lit ch ind tb s lo hs)
theorem TS.scanBlockScalarBody (lit : Bool) (sm : Marker) (lo : Nat) (hs : sm.index ≤ lo) :
    TS lo (scanBlockScalarBody lit sm) :=
  .of (Ret.scanBlockScalarBody lit sm lo hs)
theorem TS.scanBlockScalar (lit : Bool) (lo : Nat) : TS lo (scanBlockScalar lit) := .of (Ret.scanBlockScalar lit lo)
theorem TS.scanTag (lo : Nat) : TS lo scanTag := .of (Ret.scanTag lo)
theorem TS.scanPlainScalar (lo : Nat) : TS lo scanPlainScalar := .of (Ret.scanPlainScalar lo)
theorem TPL.rollIndentPush (col n tok mark) (lo : Nat) : TPL lo (rollIndentPush col n tok mark) :=
  .of (Queue.rollIndentPush col n tok mark lo)
theorem TPL.rollIndent (col n tok mark) (lo : Nat) : TPL lo (rollIndent col n tok mark) :=
  .of (Queue.rollIndent col n tok mark lo)
theorem TPL.unrollIndent (col : Int) (lo : Nat) : TPL lo (unrollIndent col) := .of (Queue.unrollIndent col lo)
theorem TPL.closeFlowState (t : TokenType) (lo : Nat) : TPL lo (closeFlowState t) := .of (Queue.closeFlowState t lo)
theorem TPL.fetchBlockEntryBody (s : Sc) (lo : Nat) : TPL lo (fetchBlockEntryBody s) :=
  .of (Queue.fetchBlockEntryBody s lo)
theorem TPL.keyPrologue (s : Sc) (lo : Nat) : TPL lo (keyPrologue s) := .of (Queue.keyPrologue s lo)
theorem TPL.fetchKeyTail (m : Marker) (lo : Nat) (h : m.index ≤ lo) : TPL lo (fetchKeyTail m) :=
  .of (Queue.fetchKeyTail m lo h)
theorem TPL.valueAfterSimpleKey (sk m i) (lo : Nat) : TPL lo (valueAfterSimpleKey sk m i) :=
  .of (Queue.valueAfterSimpleKey sk m i lo)
theorem TPL.valueAfterComplexKey (m i) (lo : Nat) : TPL lo (valueAfterComplexKey m i) :=
  .of (Queue.valueAfterComplexKey m i lo)
theorem TPL.fetchSpecial (lo : Nat) : TPL lo fetchSpecial := .of (Queue.fetchSpecial lo)
theorem TPL.fetchDispatch (lo : Nat) : TPL lo fetchDispatch := .of (Queue.fetchDispatch lo)
theorem TPL.fetchAfterStart (lo : Nat) : TPL lo fetchAfterStart := .of (Queue.fetchAfterStart lo)
theorem TSL.scanFlowScalar (single : Bool) (lo : Nat) : TSL lo (scanFlowScalar single) :=
  .of (Ret.scanFlowScalar single lo)
theorem TSL.blockContent (lit : Bool) (ch : Chomping) (ind : Nat) (tb : Str) (s : Sc) (lo : Nat) (hs : s.mark.line ≤ lo) :
    TSL lo (blockContent lit ch ind tb s) := .of (Ret.blockContent lit ch ind tb s lo hs)
theorem TSL.scanBlockScalarBody (lit : Bool) (sm : Marker) (lo : Nat) (hs : sm.line ≤ lo) :
    TSL lo (scanBlockScalarBody lit sm) :=
  .of (Ret.scanBlockScalarBody lit sm lo hs)
theorem TSL.scanBlockScalar (lit : Bool) (lo : Nat) : TSL lo (scanBlockScalar lit) := .of (Ret.scanBlockScalar lit lo)
theorem TSL.scanTag (lo : Nat) : TSL lo scanTag := .of (Ret.scanTag lo)
theorem TSL.scanPlainScalar (lo : Nat) : TSL lo scanPlainScalar := .of (Ret.scanPlainScalar lo)
theorem TPLL.rollIndentPush (col n tok mark) (lo : Nat) : TPLL lo (rollIndentPush col n tok mark) :=
  .of (Queue.rollIndentPush col n tok mark lo)
theorem TPLL.rollIndent (col n tok mark) (lo : Nat) : TPLL lo (rollIndent col n tok mark) :=
  .of (Queue.rollIndent col n tok mark lo)
theorem TPLL.unrollIndent (col : Int) (lo : Nat) : TPLL lo (unrollIndent col) := .of (Queue.unrollIndent col lo)
theorem TPLL.closeFlowState (t : TokenType) (lo : Nat) : TPLL lo (closeFlowState t) := .of (Queue.closeFlowState t lo)
theorem TPLL.fetchBlockEntryBody (s : Sc) (lo : Nat) : TPLL lo (fetchBlockEntryBody s) :=
  .of (Queue.fetchBlockEntryBody s lo)
theorem TPLL.keyPrologue (s : Sc) (lo : Nat) : TPLL lo (keyPrologue s) := .of (Queue.keyPrologue s lo)
theorem TPLL.fetchKeyTail (m : Marker) (lo : Nat) (h : m.line ≤ lo) : TPLL lo (fetchKeyTail m) :=
  .of (Queue.fetchKeyTail m lo h)
theorem TPLL.valueAfterSimpleKey (sk m i) (lo : Nat) : TPLL lo (valueAfterSimpleKey sk m i) :=
  .of (Queue.valueAfterSimpleKey sk m i lo)
theorem TPLL.valueAfterComplexKey (m i) (lo : Nat) : TPLL lo (valueAfterComplexKey m i) :=
  .of (Queue.valueAfterComplexKey m i lo)
theorem TPLL.fetchSpecial (lo : Nat) : TPLL lo fetchSpecial := .of (Queue.fetchSpecial lo)
theorem TPLL.fetchDispatch (lo : Nat) : TPLL lo fetchDispatch := .of (Queue.fetchDispatch lo)
theorem TPLL.fetchAfterStart (lo : Nat) : TPLL lo fetchAfterStart := .of (Queue.fetchAfterStart lo)

/-- **Every token the scanner delivers has a span that starts no later than it ends** — every text, every
    back-end, every capacity, however many tokens are pulled. -/
theorem scanAll_ord (fuel : Nat) : ∀ (s : Sc) (acc : List Token), TokOrd s.tokens → TokOrd acc →
    TokOrd (scanAll fuel s acc).1 := scanAll_ordered fuel

end SaphyrModel.Sc
