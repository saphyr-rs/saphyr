import SaphyrModel.Sc.KeepsScan
/-! The structural invariant `Inv` (DESIGN.md §5.2), which makes the structural panic sites unreachable: the indent
stack increases strictly from -1 (I1, `ind`); once the stream has started there is one simple key per flow level (I2,
`keys`); the token number of a possible key lies within the queue (I3, `nums`). Scanning functions only frame the state,
and framing keeps the invariant. -/
namespace SaphyrModel.Sc
open SaphyrModel

theorem Scanned.frame {s s' : Sc} (h : Scanned s s') : Frame s s' := by
  rw [h.rest]; exact ⟨rfl, rfl, rfl, rfl, rfl, rfl, ⟨[], (List.append_nil _).symm⟩⟩

def Stable (P : Sc → Prop) : Prop := ∀ s s', P s → Frame s s' → P s'

theorem Stable.scan {P : Sc → Prop} (h : Stable P) : Scan (¬ StructSite ·) P :=
  .ofBlind id (fun _ hs => h _ _ hs ⟨rfl, rfl, rfl, rfl, rfl, rfl, ⟨[], (List.append_nil _).symm⟩⟩)
    fun hadv hs => h _ _ hs hadv.frame

instance (s0 : Sc) : Scan (¬ StructSite ·) (Frame s0) := Stable.scan fun _ _ h f => h.trans f

theorem Frames.of {m : S α} (h : ∀ s0, Keeps (¬ StructSite ·) (Frame s0) m) : Frames m := Frames.iff.2 h

theorem Frames.advance (n : Nat) : Frames (advance n) := .of fun _ => (Keeps.advance n)
theorem Frames.lookahead (n) : Frames (lookahead n) := .of fun _ => (Keeps.lookahead n)
theorem Frames.lookCh : Frames lookCh := .of fun _ => Keeps.lookCh
theorem Frames.bufmaxlen : Frames bufmaxlen := .of fun _ => Keeps.bufmaxlen
theorem Frames.bufIsEmpty : Frames bufIsEmpty := .of fun _ => Keeps.bufIsEmpty
theorem Frames.scanUriEscapes (mark : Marker) : Frames (scanUriEscapes mark) := .of fun _ => (Keeps.scanUriEscapes mark)
theorem Frames.scanTag : Frames (scanTag) := .of fun _ => Keeps.scanTag
theorem Frames.blockScalarLines (lit : Bool) (indent : Nat) (fuel : Nat) :
    ∀ a, Frames (blockScalarLines lit indent fuel a) :=
  fun a => .of fun _ => (Keeps.blockScalarLines lit indent fuel a)
theorem Frames.resolveEscape (m : Marker) : Frames (resolveEscape m) := .of fun _ => (Keeps.resolveEscape m)
theorem Frames.scanFlowScalar (single : Bool) : Frames (scanFlowScalar single) :=
  .of fun _ => (Keeps.scanFlowScalar single)

def WFInd : Int → List Indent → Prop
  | i, [] => i = -1
  | i, x :: xs => x.indent < i ∧ WFInd x.indent xs

theorem WFInd_ge : ∀ (l : List Indent) (i : Int), WFInd i l → -1 ≤ i := by
  intro l; induction l with
  | nil => intro i h; simp [WFInd] at h; omega
  | cons x xs ih => intro i h; simp [WFInd] at h; have := ih _ h.2; omega

structure Inv (s : Sc) : Prop where
  ind : WFInd s.indent s.indents
  keys : s.streamStartProduced = true → s.simpleKeys.length = s.flowLevel + 1
  nums : ∀ sk ∈ s.simpleKeys, sk.possible = true →
    s.tokensParsed ≤ sk.tokenNumber ∧ sk.tokenNumber ≤ s.tokensParsed + s.tokens.length

theorem Inv.frame {s s' : Sc} (h : Inv s) (f : Frame s s') : Inv s' := by
  obtain ⟨extra, he⟩ := f.toks
  refine ⟨by rw [f.indent, f.indents]; exact h.ind, ?_, ?_⟩
  · rw [f.started, f.keys, f.flow]; exact h.keys
  · intro sk hsk hp
    rw [f.keys] at hsk
    have := h.nums sk hsk hp
    rw [f.parsed, he, List.length_append]; omega

structure Pres (m : S α) : Prop where
  out : ∀ s, Inv s → match m s with
    | .ok (_, s') => Inv s'
    | .err _ => True
    | .panic p => ¬ StructSite p

theorem Pres.iff {m : S α} : Pres m ↔ Keeps (¬ StructSite ·) Inv m := by
  constructor
  · intro h
    constructor <;> intro s <;> intros <;> rename_i hs hm <;> have := h.out s hs <;> rw [hm] at this <;> exact this
  · intro h; constructor; intro s hs
    cases hm : m s with
    | ok r => exact h.ok hs hm
    | err e => trivial
    | panic p => exact h.panic hs hm

theorem Pres.bind {m : S α} {f : α → S β} (h1 : Pres m) (h2 : ∀ a, Pres (f a)) : Pres (m >>= f) :=
  Pres.iff.2 ((Pres.iff.1 h1).bind fun a => Pres.iff.1 (h2 a))
theorem Pres.ite {c : Prop} [Decidable c] {a b : S α} (ha : Pres a) (hb : Pres b) :
    Pres (if c then a else b) := by split <;> assumption
theorem Pres.pure (a : α) : Pres (Pure.pure a : S α) := Pres.iff.2 (.pure a)

end SaphyrModel.Sc
