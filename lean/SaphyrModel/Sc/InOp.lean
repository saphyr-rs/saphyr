import SaphyrModel.Sc.Frame
/-! The operations of the `Input` interface, as far as the scanner's invariants care: `InOp m`. -/
namespace SaphyrModel.Sc
open SaphyrModel

/-- On a string input `m` stops at no panic site and leaves a string input whose text is a suffix of what it was
(`StrInput` never needs its look-ahead); on any input it stops at no structural site. -/
class InOp (m : M In α) : Prop where
  str : ∀ {i a i'}, i.kind = .str → m i = .ok (a, i') → i'.kind = .str ∧ i'.iter <:+ i.iter
  strPanic : ∀ {i p}, i.kind = .str → m i ≠ .panic p
  site : NoStruct m

namespace InOp

instance (a : α) : InOp (Pure.pure a : M In α) where
  str hk h := by cases h; exact ⟨hk, List.suffix_refl _⟩
  strPanic _ := nofun
  site := ⟨fun _ _ => nofun⟩

instance {m : M In α} {f : α → M In β} [InOp m] [∀ a, InOp (f a)] : InOp (m >>= f) where
  str hk h := by
    obtain ⟨a, i1, hm, hf⟩ := bind_ok_iff.1 h
    obtain ⟨h1, h2⟩ := str hk hm
    obtain ⟨h3, h4⟩ := str h1 hf
    exact ⟨h3, h4.trans h2⟩
  strPanic hk h := by
    rcases bind_panic_iff.1 h with hm | ⟨a, i1, hm, hf⟩
    · exact strPanic hk hm
    · exact strPanic (str hk hm).1 hf
  site := NoStruct.iff.2 (.bind (NoStruct.iff.1 site) fun _ => NoStruct.iff.1 site)

instance {c : Prop} [Decidable c] {a b : M In α} [InOp a] [InOp b] : InOp (if c then a else b) := by
  split <;> assumption

/-- an operation that `StrInput` overrides: `f` on a string input, the trait's default `g` otherwise -/
theorem kindSplit {f : In → Res (α × In)} {g : M In α}
    (h1 : ∀ {i a i'}, i.kind = .str → f i = .ok (a, i') → i'.kind = .str ∧ i'.iter <:+ i.iter)
    (h2 : ∀ {i p}, i.kind = .str → f i ≠ .panic p) (hg : NoStruct g) :
    InOp (fun i => match i.kind with | .str => f i | .buf => g i) where
  str hk h := by simp only [hk] at h; exact h1 hk h
  strPanic hk h := by simp only [hk] at h; exact h2 hk h
  site := ⟨fun i p h => by
    cases hk : i.kind <;> simp only [hk] at h
    · exact absurd h (h2 hk)
    · exact hg.out i p h⟩

end InOp

macro "inop_prim" f:ident : tactic =>
  `(tactic| (refine ⟨fun {i _ _} hk h => ?_, fun {i _} hk h => ?_, ⟨fun i p h => ?_⟩⟩
             · unfold $f at h; simp only [hk] at h
               (repeat' split at h) <;> cases h <;> first
                 | exact ⟨hk, List.suffix_refl _⟩ | exact ⟨rfl, List.suffix_refl _⟩
                 | exact ⟨rfl, List.tail_suffix _⟩ | exact ⟨rfl, List.drop_suffix _ _⟩
             · unfold $f at h; simp only [hk] at h
               (repeat' split at h) <;> cases h
             · unfold $f at h
               (repeat' split at h) <;> first | (simp at h; done) | (cases h; simp [StructSite])))

instance (n : Nat) : InOp (In.lookahead n) := by inop_prim In.lookahead
instance : InOp In.skip := by inop_prim In.skip
instance (n : Nat) : InOp (In.skipN n) := by inop_prim In.skipN
instance : InOp In.peek := by inop_prim In.peek
instance (n : Nat) : InOp (In.peekNth n) := by inop_prim In.peekNth
instance : InOp In.lookCh := by unfold In.lookCh; infer_instance
instance (c : Char) : InOp (In.nextCharIs c) := by unfold In.nextCharIs; infer_instance
instance (n : Nat) (c : Char) : InOp (In.nthCharIs n c) := by unfold In.nthCharIs; infer_instance

theorem NoStruct.lookahead (n) : NoStruct (In.lookahead n) := InOp.site
theorem NoStruct.lookCh : NoStruct In.lookCh := InOp.site

/-- `in`: at the level of the input, `M In`. This and `Keeps.inFuel` are the leaves of the trait's default loops. -/
@[keeps] theorem Keeps.inSite {m : M In α} [InOp m] :
    Keeps (¬ StructSite ·) (fun _ => True) m := NoStruct.iff.1 InOp.site

theorem InOp.assertBuflen (n : Nat) (s : Site) (hs : ¬ StructSite s) : InOp (In.assertBuflen n s) := by
  refine ⟨fun {i _ _} hk h => ?_, fun {i _} hk h => ?_, ⟨fun i p h => ?_⟩⟩
  · unfold In.assertBuflen at h; simp only [hk] at h; cases h; exact ⟨hk, List.suffix_refl _⟩
  · unfold In.assertBuflen at h; simp only [hk] at h; cases h
  · unfold In.assertBuflen at h; (repeat' split at h) <;> cases h; exact hs
instance (n : Nat) : InOp (In.assertBuflen n .assertBuflen2) := .assertBuflen _ _ (by simp [StructSite])
instance (n : Nat) : InOp (In.assertBuflen n .assertBuflen3) := .assertBuflen _ _ (by simp [StructSite])
instance (n : Nat) : InOp (In.assertBuflen n .assertBuflen4) := .assertBuflen _ _ (by simp [StructSite])

/-- the string branch of an overridden operation returns a value and leaves the input as it is -/
macro "inop_split" f:ident : tactic =>
  `(tactic| (unfold $f; refine InOp.kindSplit (fun {i _ _} hk h => ?_) (fun {i _} hk h => ?_) InOp.site
             · (repeat' split at h) <;> cases h <;> exact ⟨hk, List.suffix_refl _⟩
             · (repeat' split at h) <;> cases h))

instance (a b : Char) : InOp (In.next2Are a b) := by inop_split In.next2Are
instance (a b c : Char) : InOp (In.next3Are a b c) := by inop_split In.next3Are
instance : InOp In.nextIsDocumentIndicator := by inop_split In.nextIsDocumentIndicator
instance : InOp In.nextIsDocumentStart := by inop_split In.nextIsDocumentStart
instance : InOp In.nextIsDocumentEnd := by inop_split In.nextIsDocumentEnd
instance (q : Char → Bool) (e : Bool) : InOp (In.nextIs q e) := by inop_split In.nextIs
instance : InOp In.nextIsBlankOrBreak := inferInstanceAs (InOp (In.nextIs _ _))
instance : InOp In.nextIsBlankOrBreakz := inferInstanceAs (InOp (In.nextIs _ _))
instance : InOp In.nextIsBlank := inferInstanceAs (InOp (In.nextIs _ _))
instance : InOp In.nextIsBreak := inferInstanceAs (InOp (In.nextIs _ _))
instance : InOp In.nextIsBreakz := inferInstanceAs (InOp (In.nextIs _ _))
instance : InOp In.nextIsZ := inferInstanceAs (InOp (In.nextIs _ _))
instance : InOp In.nextIsFlow := inferInstanceAs (InOp (In.nextIs _ _))
instance : InOp In.nextIsDigit := inferInstanceAs (InOp (In.nextIs _ _))
instance : InOp In.nextIsAlpha := inferInstanceAs (InOp (In.nextIs _ _))

theorem In.spanWhile_suffix (p : Char → Bool) : ∀ l, (In.spanWhile p l).2 <:+ l
  | [] => List.suffix_refl _
  | c :: r => by
    unfold In.spanWhile
    split
    · exact (In.spanWhile_suffix p r).trans (List.suffix_cons c r)
    · exact List.suffix_refl _

theorem In.strSkipBlanks_space (tabs : Bool) (r : Str) (n : Nat) (tab ws : Bool) :
    In.strSkipBlanks tabs (' ' :: r) n tab ws = In.strSkipBlanks tabs r (n + 1) tab true := by
  simp [In.strSkipBlanks]
theorem In.strSkipBlanks_tab (tabs : Bool) (r : Str) (n : Nat) (tab ws : Bool) :
    In.strSkipBlanks tabs ('\t' :: r) n tab ws =
      if tabs then In.strSkipBlanks tabs r (n + 1) true ws else (n, tab, ws, '\t' :: r) := by
  simp [In.strSkipBlanks]
theorem In.strSkipBlanks_other (tabs : Bool) (l : Str) (n : Nat) (tab ws : Bool)
    (h1 : l.headD '\x00' ≠ ' ') (h2 : l.headD '\x00' ≠ '\t') : In.strSkipBlanks tabs l n tab ws = (n, tab, ws, l) := by
  cases l with
  | nil => simp [In.strSkipBlanks]
  | cons c r =>
    simp at h1 h2
    unfold In.strSkipBlanks
    split
    · rename_i heq; cases heq; exact absurd rfl h1
    · rename_i heq; cases heq; exact absurd rfl h2
    · rfl

theorem In.strSkipBlanks_suffix (tabs : Bool) (l : Str) (n : Nat) (tab ws : Bool) :
    (In.strSkipBlanks tabs l n tab ws).2.2.2 <:+ l := by
  fun_induction In.strSkipBlanks tabs l n tab ws with
  | case1 r n tab ws ih => exact ih.trans (List.suffix_cons _ _)
  | case2 r n tab ws h ih => exact ih.trans (List.suffix_cons _ _)
  | case3 => exact List.suffix_refl _
  | case4 => exact List.suffix_refl _

@[keeps] theorem Keeps.inFuel {I : In → Prop} : Keeps (¬ StructSite ·) I (Sc.panicAt .fuel : M In α) :=
  .panicAt (by simp [StructSite])
/-- the trait's default loops, which `StrInput` overrides, stop at no structural site either (this and the next two) -/
@[keeps] theorem Keeps.dfltSkipWhile (p : Char → Bool) (fuel : Nat) :
    ∀ n, Keeps (¬ StructSite ·) (fun _ => True) (In.dfltSkipWhile p fuel n) := by
  induction fuel <;> intro n <;> unfold In.dfltSkipWhile <;> keeps
theorem Keeps.dfltFetchAlpha (fuel : Nat) :
    ∀ n out, Keeps (¬ StructSite ·) (fun _ => True) (In.dfltFetchAlpha fuel n out) := by
  induction fuel <;> intro n out <;> unfold In.dfltFetchAlpha <;> keeps
theorem Keeps.dfltSkipWs (t : SkipTabs) (fuel : Nat) :
    ∀ n tab ws, Keeps (¬ StructSite ·) (fun _ => True) (In.dfltSkipWs t fuel n tab ws) := by
  induction fuel <;> intro n tab ws <;> unfold In.dfltSkipWs <;> keeps

/-- an overridden loop: the string branch cuts a prefix off the text -/
macro "inop_loop" f:ident : tactic =>
  `(tactic| (unfold $f; refine InOp.kindSplit (fun {i _ _} hk h => ?_) (fun {i _} _ h => nomatch h) ?_
             · cases h; exact ⟨hk, In.spanWhile_suffix _ _⟩
             · first | exact NoStruct.iff.2 (.dep fun _ => Keeps.dfltSkipWhile _ _ _)
                     | exact NoStruct.iff.2 (.dep fun _ => Keeps.dfltFetchAlpha _ _ _)))

instance : InOp In.skipWhileNonBreakz := by inop_loop In.skipWhileNonBreakz
instance : InOp In.skipWhileBlank := by inop_loop In.skipWhileBlank
instance (out : Str) : InOp (In.fetchWhileIsAlpha out) := by inop_loop In.fetchWhileIsAlpha

instance : InOp In.rawReadNonBreakzCh := by
  refine ⟨fun {i _ _} hk h => ?_, fun {i _} hk h => ?_, ⟨fun i p h => ?_⟩⟩
  · unfold In.rawReadNonBreakzCh at h
    split at h
    · cases h; exact ⟨hk, List.suffix_refl _⟩
    · rename_i c r hi
      simp only [hk] at h
      split at h <;> cases h
      · exact ⟨hk, List.suffix_refl _⟩
      · exact ⟨rfl, hi ▸ List.suffix_cons c r⟩
  · unfold In.rawReadNonBreakzCh at h; simp only [hk] at h; (repeat' split at h) <;> cases h
  · unfold In.rawReadNonBreakzCh at h; (repeat' split at h) <;> cases h; simp [StructSite]

/-- `skip_ws_to_eol` with a `SkipTabs` the scanner passes: the assertion of `StrInput` on its argument holds -/
theorem InOp.skipWsToEol (t : SkipTabs) (ht : t = .yes ∨ t = .no) : InOp (In.skipWsToEol t) := by
  unfold In.skipWsToEol
  refine InOp.kindSplit (fun {i _ _} hk h => ?_) (fun {i _} _ h => ?_) ?_
  · have hs := In.strSkipBlanks_suffix (t == .yes) i.iter 0 false false
    rcases ht with rfl | rfl <;> dsimp only at h <;> (repeat' split at h) <;> cases h <;>
      first
      | exact ⟨hk, List.suffix_refl _⟩
      | exact ⟨hk, hs⟩
      | (rename_i hr _; exact ⟨hk, (In.spanWhile_suffix _ _).trans (hr ▸ hs)⟩)
  · rcases ht with rfl | rfl <;> dsimp only at h <;> (repeat' split at h) <;> cases h
  · exact NoStruct.iff.2 (.dep fun _ => Keeps.dfltSkipWs t _ 0 false false)
instance : InOp (In.skipWsToEol .yes) := .skipWsToEol _ (.inl rfl)
instance : InOp (In.skipWsToEol .no) := .skipWsToEol _ (.inr rfl)

theorem NoStruct.canBePlain (fl : Bool) : NoStruct (In.nextCanBePlainScalar fl) := by
  constructor
  intro i p h
  unfold In.nextCanBePlainScalar at h
  cases hk : i.kind <;> simp only [hk] at h
  · (repeat' split at h) <;> cases h; simp [StructSite]
  · exact InOp.site.out i p h

theorem In.nextIs_str (q : Char → Bool) (e : Bool) (i : In) (hk : i.kind = .str) :
    In.nextIs q e i = .ok ((match i.iter with | [] => e | c :: _ => q c), i) := by
  simp only [In.nextIs, hk]
  cases i.iter <;> rfl

theorem In.nextCanBePlainScalar_cons (fl : Bool) (i : In) (hk : i.kind = .str) (hi : i.iter ≠ []) :
    ∃ b, In.nextCanBePlainScalar fl i = .ok (b, i) := by
  unfold In.nextCanBePlainScalar
  simp only [hk]
  (repeat' split) <;> first | exact ⟨_, rfl⟩ | contradiction

/-- `next_can_be_plain_scalar` is no `InOp`: `StrInput` indexes into its text, a panic site on an empty string. The
scanner asks it only after `next_is_blank_or_breakz` said no, when the text is not empty: the two questions together are
an `InOp`. -/
def In.plainGuard (fl : Bool) : M In (Option Bool) :=
  In.nextIsBlankOrBreakz >>= fun b => if b = true then pure none else In.nextCanBePlainScalar fl >>= fun c => pure (some c)

theorem In.plainGuard_str (fl : Bool) (i : In) (hk : i.kind = .str) : ∃ o, In.plainGuard fl i = .ok (o, i) := by
  rw [In.plainGuard, In.nextIsBlankOrBreakz, bind_ok (In.nextIs_str _ _ i hk)]
  cases hi : i.iter with
  | nil => exact ⟨none, rfl⟩
  | cons c r =>
    obtain ⟨b, hb⟩ := In.nextCanBePlainScalar_cons fl i hk (by simp [hi])
    dsimp only
    split
    · exact ⟨none, rfl⟩
    · exact ⟨some b, by rw [bind_ok hb]; rfl⟩

instance (fl : Bool) : InOp (In.plainGuard fl) where
  str hk h := by obtain ⟨o, ho⟩ := In.plainGuard_str fl _ hk; cases ho.symm.trans h; exact ⟨hk, List.suffix_refl _⟩
  strPanic hk h := by obtain ⟨o, ho⟩ := In.plainGuard_str fl _ hk; cases ho.symm.trans h
  site := NoStruct.iff.2 (.bind (NoStruct.iff.1 InOp.site) fun _ =>
    .ite (.pure _) (.bind (NoStruct.iff.1 (NoStruct.canBePlain fl)) fun _ => .pure _))

end SaphyrModel.Sc
