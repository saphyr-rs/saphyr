import SaphyrModel.Sc.KeepsScan
/-! The bookkeeping of simple keys, indent stack and flow level keeps every invariant that is a `Book`; the functions
that also push, insert or deliver tokens — `roll_indent`, `unroll_indent`, every `fetch_*`, `fetch_more_tokens`,
`next_token` — keep every invariant that is a `Fetch`. -/
namespace SaphyrModel.Sc
open SaphyrModel
variable {A : Site → Prop} {I : Sc → Prop}

section
variable [Book A I]

@[keeps] theorem Keeps.tokenPos (n : Nat) : Keeps A I (tokenPos n) := by
  unfold Sc.tokenPos
  refine ⟨fun hs h => ?_, fun _ h => ?_⟩ <;> split at h <;> cases h
  · exact hs
  · exact Book.struct I trivial

/-- the edits of the flow and key bookkeeping that the model names -/
macro "keeps_edit" f:ident : tactic =>
  `(tactic| (refine Keeps.upd fun s => ?_; unfold $f; repeat' (first | exact ⟨rfl, rfl, rfl⟩ | split)))
@[keeps] theorem Keeps.dropNonBlockTop (col : Nat) :
    Keeps A I (Sc.modS (dropNonBlockTop col)) := by keeps_edit Sc.dropNonBlockTop
@[keeps] theorem Keeps.markExplicitKey : Keeps A I (Sc.modS markExplicitKey) := by keeps_edit Sc.markExplicitKey
@[keeps] theorem Keeps.popExplicitMapping :
    Keeps A I (Sc.modS popExplicitMapping) := by keeps_edit Sc.popExplicitMapping

@[keeps] theorem Keeps.rollOneColIndent : Keeps A I rollOneColIndent := by unfold Sc.rollOneColIndent; keeps
@[keeps] theorem Keeps.unrollNonBlockIndents : Keeps A I unrollNonBlockIndents := Keeps.upd fun _ => ⟨rfl, rfl, rfl⟩
@[keeps] theorem Keeps.requiredKey (s : Sc) : Keeps A I (requiredKey s) := by unfold Sc.requiredKey; keeps
@[keeps] theorem Keeps.saveSimpleKey : Keeps A I saveSimpleKey := by unfold Sc.saveSimpleKey; keeps
@[keeps] theorem Keeps.removeSimpleKey : Keeps A I removeSimpleKey := by unfold Sc.removeSimpleKey; keeps
@[keeps] theorem Keeps.staleSimpleKeys : Keeps A I staleSimpleKeys := by unfold Sc.staleSimpleKeys; keeps
@[keeps] theorem Keeps.increaseFlowLevel : Keeps A I increaseFlowLevel := by unfold Sc.increaseFlowLevel; keeps
@[keeps] theorem Keeps.decreaseFlowLevel : Keeps A I decreaseFlowLevel := by unfold Sc.decreaseFlowLevel; keeps
@[keeps] theorem Keeps.needMoreTokens : Keeps A I needMoreTokens := by unfold Sc.needMoreTokens; keeps
@[keeps] theorem Keeps.rollIfBreakOrFlow : Keeps A I rollIfBreakOrFlow := by unfold Sc.rollIfBreakOrFlow; keeps
@[keeps] theorem Keeps.scanBlockScalar (lit : Bool) : Keeps A I (scanBlockScalar lit) := by
  unfold Sc.scanBlockScalar; keeps
@[keeps] theorem Keeps.scanPlainScalar : Keeps A I scanPlainScalar := by unfold Sc.scanPlainScalar; keeps
end

variable [Fetch A I]

@[keeps] theorem Keeps.insertToken (pos : Nat) (tok : Token) : Keeps A I (insertToken pos tok) := by
  unfold Sc.insertToken
  refine ⟨fun {s _ _} hs h => ?_, fun _ h => ?_⟩ <;> split at h <;> cases h
  · exact Fetch.fwd (A := A) (s := s) ⟨rfl, Nat.le_refl _, Nat.le_refl _⟩ hs
  · exact Book.struct I trivial
@[keeps] theorem Keeps.pushTok (sp : Span) (t : TokenType) : Keeps A I (pushTok sp t) :=
  Keeps.edit (fun _ => rfl) (fun _ => rfl)

@[keeps] theorem Keeps.rollIndentPush (col n tok mark) : Keeps A I (rollIndentPush col n tok mark) := by
  unfold Sc.rollIndentPush; keeps
@[keeps] theorem Keeps.rollIndent (col n tok mark) : Keeps A I (rollIndent col n tok mark) := by
  unfold Sc.rollIndent; keeps
@[keeps] theorem Keeps.unrollIndentGo (col : Int) (fuel : Nat) : Keeps A I (unrollIndentGo col fuel) := by
  induction fuel <;> unfold Sc.unrollIndentGo <;> keeps
@[keeps] theorem Keeps.unrollIndent (col : Int) : Keeps A I (unrollIndent col) := by unfold Sc.unrollIndent; keeps
@[keeps] theorem Keeps.endImplicitMapping (m : Marker) : Keeps A I (endImplicitMapping m) := by
  unfold Sc.endImplicitMapping; keeps
@[keeps] theorem Keeps.fetchStreamStart : Keeps A I fetchStreamStart := by unfold Sc.fetchStreamStart; keeps
@[keeps] theorem Keeps.fetchStreamEnd : Keeps A I fetchStreamEnd := by
  unfold Sc.fetchStreamEnd
  -- the end of the stream forces the mark to the start of a next line
  exact Keeps.bind (Keeps.fwd fun s => by split <;> exact ⟨rfl, Nat.le_refl _, by simp⟩) fun _ => by keeps
@[keeps] theorem Keeps.fetchDirective : Keeps A I fetchDirective := by unfold Sc.fetchDirective; keeps
@[keeps] theorem Keeps.fetchTag : Keeps A I fetchTag := by unfold Sc.fetchTag; keeps
@[keeps] theorem Keeps.fetchAnchor (a : Bool) : Keeps A I (fetchAnchor a) := by unfold Sc.fetchAnchor; keeps
@[keeps] theorem Keeps.fetchFlowCollectionStart (t : TokenType) : Keeps A I (fetchFlowCollectionStart t) := by
  unfold Sc.fetchFlowCollectionStart; keeps
@[keeps] theorem Keeps.closeFlowState (t : TokenType) : Keeps A I (closeFlowState t) := by
  unfold Sc.closeFlowState; keeps
@[keeps] theorem Keeps.fetchFlowCollectionEnd (t : TokenType) : Keeps A I (fetchFlowCollectionEnd t) := by
  unfold Sc.fetchFlowCollectionEnd; keeps
@[keeps] theorem Keeps.fetchFlowEntry : Keeps A I fetchFlowEntry := by unfold Sc.fetchFlowEntry; keeps
@[keeps] theorem Keeps.fetchBlockEntryTail : Keeps A I fetchBlockEntryTail := by unfold Sc.fetchBlockEntryTail; keeps
@[keeps] theorem Keeps.fetchBlockEntryBody (s : Sc) : Keeps A I (fetchBlockEntryBody s) := by
  unfold Sc.fetchBlockEntryBody; keeps
@[keeps] theorem Keeps.fetchBlockEntry : Keeps A I fetchBlockEntry := by unfold Sc.fetchBlockEntry; keeps
@[keeps] theorem Keeps.fetchDocumentIndicator (t : TokenType) : Keeps A I (fetchDocumentIndicator t) := by
  unfold Sc.fetchDocumentIndicator; keeps
@[keeps] theorem Keeps.fetchBlockScalar (lit : Bool) : Keeps A I (fetchBlockScalar lit) := by
  unfold Sc.fetchBlockScalar; keeps
@[keeps] theorem Keeps.fetchFlowScalar (single : Bool) : Keeps A I (fetchFlowScalar single) := by
  unfold Sc.fetchFlowScalar; keeps
@[keeps] theorem Keeps.fetchPlainScalar : Keeps A I fetchPlainScalar := by unfold Sc.fetchPlainScalar; keeps
@[keeps] theorem Keeps.keyPrologue (s : Sc) : Keeps A I (keyPrologue s) := by unfold Sc.keyPrologue; keeps
@[keeps] theorem Keeps.fetchKeyTail (m : Marker) : Keeps A I (fetchKeyTail m) := by unfold Sc.fetchKeyTail; keeps
@[keeps] theorem Keeps.fetchKey : Keeps A I fetchKey := by unfold Sc.fetchKey; keeps
@[keeps] theorem Keeps.valueAfterSimpleKey (sk m i) : Keeps A I (valueAfterSimpleKey sk m i) := by
  unfold Sc.valueAfterSimpleKey; keeps
@[keeps] theorem Keeps.valueAfterComplexKey (m i) : Keeps A I (valueAfterComplexKey m i) := by
  unfold Sc.valueAfterComplexKey; keeps
@[keeps] theorem Keeps.fetchValue : Keeps A I fetchValue := by unfold Sc.fetchValue; keeps
@[keeps] theorem Keeps.fetchFlowValue : Keeps A I fetchFlowValue := by unfold Sc.fetchFlowValue; keeps
@[keeps] theorem Keeps.fetchDocumentEndMarker : Keeps A I fetchDocumentEndMarker := by
  unfold Sc.fetchDocumentEndMarker; keeps
@[keeps] theorem Keeps.fetchSpecial : Keeps A I fetchSpecial := by unfold Sc.fetchSpecial; keeps
@[keeps] theorem Keeps.fetchDispatch : Keeps A I fetchDispatch := by unfold Sc.fetchDispatch; keeps
@[keeps] theorem Keeps.fetchAfterStart : Keeps A I fetchAfterStart := by unfold Sc.fetchAfterStart; keeps
@[keeps] theorem Keeps.fetchNextToken : Keeps A I fetchNextToken := by unfold Sc.fetchNextToken; keeps
@[keeps] theorem Keeps.fetchMoreTokens (fuel : Nat) : Keeps A I (fetchMoreTokens fuel) := by
  induction fuel <;> unfold Sc.fetchMoreTokens <;> keeps
@[keeps] theorem Keeps.popToken : Keeps A I popToken := by unfold Sc.popToken; keeps
@[keeps] theorem Keeps.nextToken : Keeps A I nextToken := by unfold Sc.nextToken; keeps

end SaphyrModel.Sc
