import SaphyrModel.Sc.Struct
/-! The structural invariant carried through the `fetch_*` functions, `fetch_more_tokens`, `next_token` and the run.
`InvS` is one more invariant that every scanning function keeps (it survives framing); the functions that touch the
indent stack, the simple keys or the queue have their lemmas in `Struct.lean`; the `fetch_*` functions are sequences of
the two kinds. -/
namespace SaphyrModel.Sc
open SaphyrModel

theorem appendTok_frames (tok : Token) : Frames (modS fun s => { s with tokens := s.tokens ++ [tok] }) :=
  Frames.modS _ fun _ => ⟨rfl, rfl, rfl, rfl, rfl, rfl, ⟨[tok], rfl⟩⟩

@[keeps] theorem popExplicitMapping_pres : PresS (modS popExplicitMapping) :=
  .of (Keeps.frame InvS.stable fun _ => by unfold popExplicitMapping; split <;> frame_edit)
@[keeps] theorem markExplicitKey_pres : PresS (modS markExplicitKey) :=
  .of (Keeps.frame InvS.stable fun _ => by unfold markExplicitKey; split <;> frame_edit)
@[keeps] theorem endImplicitMapping_pres (m : Marker) : PresS (endImplicitMapping m) :=
  .of (by unfold endImplicitMapping; keeps)
@[keeps] theorem fetchDirective_pres : PresS fetchDirective := .of (by unfold fetchDirective; keeps)
@[keeps] theorem fetchTag_pres : PresS fetchTag := .of (by unfold fetchTag; keeps)
@[keeps] theorem fetchAnchor_pres (a : Bool) : PresS (fetchAnchor a) := .of (by unfold fetchAnchor; keeps)
@[keeps] theorem fetchFlowEntry_pres : PresS fetchFlowEntry := .of (by unfold fetchFlowEntry; keeps)
@[keeps] theorem fetchDocumentIndicator_pres (t : TokenType) : PresS (fetchDocumentIndicator t) :=
  .of (by unfold fetchDocumentIndicator; keeps)
@[keeps] theorem scanBlockScalar_pres (lit : Bool) : PresS (scanBlockScalar lit) :=
  .of (by unfold scanBlockScalar; keeps)
@[keeps] theorem scanPlainScalar_pres : PresS scanPlainScalar := .of (by unfold scanPlainScalar; keeps)
@[keeps] theorem fetchBlockScalar_pres (l : Bool) : PresS (fetchBlockScalar l) :=
  .of (by unfold fetchBlockScalar; keeps)
@[keeps] theorem fetchPlainScalar_pres : PresS fetchPlainScalar := .of (by unfold fetchPlainScalar; keeps)
@[keeps] theorem fetchFlowScalar_pres (single : Bool) : PresS (fetchFlowScalar single) :=
  .of (by unfold fetchFlowScalar; keeps)
@[keeps] theorem fetchFlowCollectionStart_pres (t : TokenType) : PresS (fetchFlowCollectionStart t) :=
  .of (by unfold fetchFlowCollectionStart; keeps)
@[keeps] theorem closeFlowState_pres (t : TokenType) : PresS (closeFlowState t) := .of (by unfold closeFlowState; keeps)
@[keeps] theorem fetchFlowCollectionEnd_pres (t : TokenType) : PresS (fetchFlowCollectionEnd t) :=
  .of (by unfold fetchFlowCollectionEnd; keeps)
@[keeps] theorem rollIfBreakOrFlow_pres : PresS rollIfBreakOrFlow := .of (by unfold rollIfBreakOrFlow; keeps)
@[keeps] theorem fetchBlockEntryTail_pres : PresS fetchBlockEntryTail := .of (by unfold fetchBlockEntryTail; keeps)
@[keeps] theorem fetchBlockEntryBody_pres (s : Sc) : PresS (fetchBlockEntryBody s) :=
  .of (by unfold fetchBlockEntryBody; keeps)
@[keeps] theorem fetchBlockEntry_pres : PresS fetchBlockEntry := .of (by unfold fetchBlockEntry; keeps)
@[keeps] theorem keyPrologue_pres (s : Sc) : PresS (keyPrologue s) := .of (by unfold keyPrologue; keeps)
@[keeps] theorem fetchKeyTail_pres (m0 : Marker) : PresS (fetchKeyTail m0) := .of (by unfold fetchKeyTail; keeps)
@[keeps] theorem fetchKey_pres : PresS fetchKey := .of (by unfold fetchKey; keeps)

theorem HeadKey.stable (sk : SimpleKey) : Stable (HeadKey sk) := by
  intro s s' h f
  exact ⟨InvS.stable s s' h.1 f, by rw [f.keys]; exact h.2⟩

instance (sk : SimpleKey) : Scan (¬ StructSite ·) (HeadKey sk) := (HeadKey.stable sk).scan

@[keeps] theorem fetchValue_pres : PresS fetchValue := by
  unfold fetchValue
  refine Tr.getS_bind fun s hs => ?_
  split
  · -- `simple_keys.last().unwrap()`: the key stack is never empty once the stream has started
    exact (hs.keys_ne ‹_›).elim
  · rename_i sk rest hk
    refine Tr.call (P := HeadKey sk) ?_ ⟨hs, by rw [hk]; rfl⟩
    refine Tr.bind (R := fun _ => HeadKey sk) ?_ fun _ => ?_
    · exact Tr.ite (fun _ => Tr.iff.2 (Keeps.frame (HeadKey.stable sk) fun _ => by frame_edit)) fun _ =>
        Tr.pure _ fun _ h => h
    · refine Tr.bind (Tr.iff.2 Keeps.skipNonBlank) fun _ => Tr.bind (Tr.iff.2 Keeps.valueTabCheck) fun tabErr => ?_
      refine Tr.ite (fun _ => Tr.bind (Tr.iff.2 Keeps.getMark) fun _ => Tr.err _ _) fun _ => ?_
      refine Tr.bind (R := fun _ => InvS) ?_ fun _ => pushTok_pres _ _
      exact Tr.ite (fun hp => valueAfterSimpleKey_pres sk hp _ _) fun _ =>
        (valueAfterComplexKey_pres _ _).weaken fun _ h => h.1

@[keeps] theorem fetchFlowValue_pres : PresS fetchFlowValue := .of (by unfold fetchFlowValue; keeps)

/-- the scanner state before the first token was fetched -/
structure Init (s : Sc) : Prop where
  started : s.streamStartProduced = false
  keys : s.simpleKeys = []
  flow : s.flowLevel = 0
  indents : s.indents = []
  toks : s.tokens = []

theorem fetchStreamStart_tr : Tr Init fetchStreamStart (fun _ => InvS) := by
  intro s h
  simp only [fetchStreamStart, Bind.bind, getMark, Sc.modS, pushTok]
  refine ⟨⟨?_, ?_, ?_⟩, rfl⟩
  · simp [h.indents, WFInd]
  · intro _; simp [h.keys, h.flow]
  · simp [h.keys]

theorem clearPossibleKeys_inv (s : Sc) (h : InvS s) : InvS (clearPossibleKeys s) :=
  h.mapKeys fun _ => .inr rfl

@[keeps] theorem clearPossibleKeys_pres : PresS (modS clearPossibleKeys) := Tr.modS' _ clearPossibleKeys_inv
@[keeps] theorem fetchStreamEnd_pres : PresS fetchStreamEnd := .of (by unfold fetchStreamEnd; keeps)

@[keeps] theorem fetchDocumentEndMarker_pres : PresS fetchDocumentEndMarker :=
  .of (by unfold fetchDocumentEndMarker; keeps)
@[keeps] theorem fetchSpecial_pres : PresS fetchSpecial := .of (by unfold fetchSpecial; keeps)
@[keeps] theorem fetchDispatch_pres : PresS fetchDispatch := .of (by unfold fetchDispatch; keeps)
theorem fetchAfterStart_pres : PresS fetchAfterStart := .of (by unfold fetchAfterStart; keeps)

def Pre (s : Sc) : Prop := InvS s ∨ Init s

theorem Pre.inp {s : Sc} (i : In) (h : Pre s) : Pre { s with inp := i } := by
  rcases h with h | h
  · exact Or.inl ⟨⟨h.ind, h.keys, h.nums⟩, h.started⟩
  · exact Or.inr ⟨h.started, h.keys, h.flow, h.indents, h.toks⟩

/-- `fetch_next_token` establishes the structural invariant (first call) and preserves it (later calls) -/
theorem fetchNextToken_tr : Tr Pre fetchNextToken (fun _ => InvS) := by
  unfold fetchNextToken
  refine Tr.bind (Tr.iff.2 (Keeps.liftI Pre.inp InOp.site.out)) fun _ => Tr.getS_bind fun s hp => ?_
  refine Tr.ite (fun hns => fetchStreamStart_tr.call ?_) fun hs => fetchAfterStart_pres.call ?_
  · exact hp.resolve_left fun h => by simp [h.started] at hns
  · exact hp.resolve_right fun h => by simp [h.started] at hs

def Front (s : Sc) : Prop := ∀ sk ∈ s.simpleKeys, sk.possible = true → sk.tokenNumber ≠ s.tokensParsed

/-- `needMoreTokens` answers `false` only in a state where the front token can be delivered -/
theorem needMoreTokens_tr :
    Tr Pre needMoreTokens (fun needMore s => Pre s ∧ (needMore = false → InvS s ∧ Front s ∧ s.tokens ≠ [])) := by
  unfold needMoreTokens
  refine Tr.getS_bind fun s hp => Tr.ite (fun _ => Tr.pure_at ⟨hp, nofun⟩) fun hne => ?_
  have ht : s.tokens ≠ [] := fun h => hne (by simp [h])
  -- tokens are queued, so the stream has started
  have hs : InvS s := hp.resolve_right fun h => ht h.toks
  refine Tr.bind ((staleSimpleKeys_tr (· ≠ [])).call ⟨hs, ht⟩) fun _ => Tr.getS_bind fun s ⟨hs, ht⟩ => ?_
  refine Tr.pure_at ⟨.inl hs, fun hf => ⟨hs, fun sk hsk hp heq => ?_, ht⟩⟩
  have : (s.simpleKeys.any fun sk => sk.possible && sk.tokenNumber == s.tokensParsed) = true := by
    rw [List.any_eq_true]; exact ⟨sk, hsk, by simp [hp, heq]⟩
  rw [this] at hf; exact Bool.noConfusion hf

theorem fetchMoreTokens_tr (fuel : Nat) :
    Tr Pre (fetchMoreTokens fuel) (fun _ s => InvS s ∧ Front s ∧ s.tokens ≠ [] ∧ s.tokenAvailable = true) := by
  induction fuel with
  | zero => unfold fetchMoreTokens; exact Tr.panicFuel
  | succ n ih =>
    unfold fetchMoreTokens
    refine Tr.bind needMoreTokens_tr fun needMore => Tr.ite (fun _ => ?_) fun hn => Tr.modS' _ fun s hs => ?_
    · exact Tr.bind (fetchNextToken_tr.weaken fun _ h => h.1) fun _ => ih.weaken fun _ => .inl
    · have ⟨h, hf, ht⟩ := hs.2 (by simpa using hn)
      exact ⟨⟨⟨h.ind, h.keys, h.nums⟩, h.started⟩, hf, ht, rfl⟩

/-- delivering the front token keeps the invariant, because no possible key points at it -/
theorem popToken_tr :
    Tr (fun s => InvS s ∧ Front s ∧ s.tokens ≠ []) popToken (fun _ s => InvS s ∧ s.tokenAvailable = false) := by
  unfold popToken
  refine Tr.getS_bind fun s ⟨hs, hf, _⟩ => ?_
  split
  · exact Tr.err _ _
  · rename_i t ts ht
    refine Tr.bind (R := fun _ s => InvS s ∧ s.tokenAvailable = false) (Tr.modS_at ?_) fun _ => Tr.pure _ fun _ h => h
    refine ⟨⟨⟨hs.ind, hs.keys, fun sk hsk hp => ?_⟩, hs.started⟩, rfl⟩
    have h1 := hs.nums sk hsk hp
    have h2 := hf sk hsk hp
    simp only [ht, List.length_cons] at h1
    show s.tokensParsed + 1 ≤ sk.tokenNumber ∧ sk.tokenNumber ≤ s.tokensParsed + 1 + ts.length
    constructor <;> omega

/-- what holds between two calls of `Scanner::next` -/
def Between (s : Sc) : Prop := Pre s ∧ s.tokenAvailable = false

theorem nextToken_tr : Tr Between nextToken (fun _ => Between) := by
  unfold nextToken
  refine Tr.getS_bind fun s hb => Tr.ite (fun _ => Tr.pure_at hb) fun _ => ?_
  refine Tr.bind (R := fun _ s => InvS s ∧ Front s ∧ s.tokens ≠ []) ?_ fun _ =>
    popToken_tr.mono fun _ _ h => ⟨.inl h.1, h.2⟩
  refine Tr.ite (fun _ => ?_) fun hta => by simp [hb.2] at hta
  exact ((fetchMoreTokens_tr _).call hb.1).mono fun _ _ h => ⟨h.1, h.2.1, h.2.2.1⟩

theorem mkSc_between (kind : InKind) (cap : Nat) (text : Str) : Between (mkSc kind cap text) :=
  ⟨Or.inr ⟨rfl, rfl, rfl, rfl, rfl⟩, rfl⟩

/-- **No structural panic.**  Whatever the input, the back-end and its capacity, the scanner never reaches
`indents.pop().unwrap()`, `indents.last().unwrap()`, `simple_keys.last().unwrap()`, `simple_keys.pop().unwrap()`,
the `assert!` of `insert_token` or the subtraction `token_number - tokens_parsed`. -/
theorem scanAll_no_struct_panic (fuel : Nat) (s : Sc) (acc : List Token) (h : Between s) (p : Site)
    (hp : (scanAll fuel s acc).2.1 = .panic p) : ¬ StructSite p :=
  Keeps.scanAll (Tr.iff.1 nextToken_tr) (by simp [StructSite]) fuel s acc h hp

end SaphyrModel.Sc
