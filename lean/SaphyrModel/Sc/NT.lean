import SaphyrModel.Sc.KeepsFetch
/-! `NT m`: `m` leaves the token queue as it is (the scanning functions and the bookkeeping; the `fetch_*` functions are
the ones that push). -/
namespace SaphyrModel.Sc
open SaphyrModel

structure NT (m : S α) : Prop where
  out : ∀ s a s', m s = .ok (a, s') → s'.tokens = s.tokens

instance (T : List Token) : Book (fun _ => True) (fun s => s.tokens = T) :=
  .ofBlind trivial (fun _ h => h) (fun ha h => by rw [ha.rest]; exact h) fun hu h => by rw [hu.tokens]; exact h

theorem NT.of {m : S α} (h : ∀ T, Keeps (fun _ => True) (fun s => s.tokens = T) m) : NT m :=
  ⟨fun _ _ _ hm => (h _).ok rfl hm⟩

theorem NT.bufmaxlen : NT bufmaxlen := .of fun _ => Keeps.bufmaxlen
theorem NT.bufIsEmpty : NT bufIsEmpty := .of fun _ => Keeps.bufIsEmpty
theorem NT.isWithinBlock : NT isWithinBlock := .of fun _ => Keeps.isWithinBlock
theorem NT.lookahead (n) : NT (lookahead n) := .of fun _ => (Keeps.lookahead n)
theorem NT.lookCh : NT lookCh := .of fun _ => Keeps.lookCh
theorem NT.advance (n) : NT (advance n) := .of fun _ => (Keeps.advance n)
theorem NT.scanUriEscapes (mark : Marker) : NT (scanUriEscapes mark) := .of fun _ => (Keeps.scanUriEscapes mark)
theorem NT.scanTag : NT (scanTag) := .of fun _ => Keeps.scanTag
theorem NT.blockScalarLines (lit : Bool) (indent : Nat) (fuel : Nat) : ∀ a, NT (blockScalarLines lit indent fuel a) :=
  fun a => .of fun _ => (Keeps.blockScalarLines lit indent fuel a)
theorem NT.blockHeader (m : Marker) (c : Char) (b : Bool) : NT (blockHeader m c b) :=
  .of fun _ => (Keeps.blockHeader m c b)
theorem NT.blockIndent (inc : Nat) (s : Sc) : NT (blockIndent inc s) := .of fun _ => (Keeps.blockIndent inc s)
theorem NT.blockFinish (ch : Chomping) (ind : Nat) (a : BlkAcc) (s : Sc) : NT (blockFinish ch ind a s) :=
  .of fun _ => (Keeps.blockFinish ch ind a s)
theorem NT.blockContent (lit : Bool) (ch : Chomping) (ind : Nat) (tb : Str) (s : Sc) :
    NT (blockContent lit ch ind tb s) :=
  .of fun _ => (Keeps.blockContent lit ch ind tb s)
theorem NT.scanBlockScalarBody (lit : Bool) (m : Marker) : NT (scanBlockScalarBody lit m) :=
  .of fun _ => (Keeps.scanBlockScalarBody lit m)
theorem NT.resolveEscape (m : Marker) : NT (resolveEscape m) := .of fun _ => (Keeps.resolveEscape m)
theorem NT.scanFlowScalar (single : Bool) : NT (scanFlowScalar single) := .of fun _ => (Keeps.scanFlowScalar single)
theorem NT.unrollNonBlockIndents : NT unrollNonBlockIndents := .of fun _ => Keeps.unrollNonBlockIndents
theorem NT.scanBlockScalar (lit : Bool) : NT (scanBlockScalar lit) := .of fun _ => (Keeps.scanBlockScalar lit)
theorem NT.scanPlainScalar : NT scanPlainScalar := .of fun _ => Keeps.scanPlainScalar
theorem NT.tokenPos (n : Nat) : NT (tokenPos n) := .of fun _ => (Keeps.tokenPos n)
theorem NT.rollOneColIndent : NT rollOneColIndent := .of fun _ => Keeps.rollOneColIndent
theorem NT.requiredKey (s : Sc) : NT (requiredKey s) := .of fun _ => (Keeps.requiredKey s)
theorem NT.saveSimpleKey : NT saveSimpleKey := .of fun _ => Keeps.saveSimpleKey
theorem NT.removeSimpleKey : NT removeSimpleKey := .of fun _ => Keeps.removeSimpleKey
theorem NT.staleSimpleKeys : NT staleSimpleKeys := .of fun _ => Keeps.staleSimpleKeys
theorem NT.increaseFlowLevel : NT increaseFlowLevel := .of fun _ => Keeps.increaseFlowLevel
theorem NT.decreaseFlowLevel : NT decreaseFlowLevel := .of fun _ => Keeps.decreaseFlowLevel
theorem NT.valueTabCheck : NT valueTabCheck := .of fun _ => Keeps.valueTabCheck
theorem NT.needMoreTokens : NT needMoreTokens := .of fun _ => Keeps.needMoreTokens

end SaphyrModel.Sc
