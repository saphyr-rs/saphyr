import SaphyrModel.Sc.InOp
/-! What an invariant of the scanner state has to survive so that every scanner function keeps it. The functions
come in three layers, by what they do to the state besides reading input: the scanning functions move the mark forward
and set two flags (`Scan`); the bookkeeping of simple keys, indent stack, flow level and implicit-mapping states edits
everything but input, mark and token queue (`Book`); the `fetch_*` functions also edit the queue (`Fetch`). -/
namespace SaphyrModel.Sc
open SaphyrModel

/-- `s'` is `s` with the mark moved forward (in index and line) and the two flags set: all that a scanning
function does to the state besides reading input. -/
structure Scanned (s s' : Sc) : Prop where
  index : s.mark.index ≤ s'.mark.index
  line : s.mark.line ≤ s'.mark.line
  rest : s' = { s with mark := s'.mark, leadingWhitespace := s'.leadingWhitespace,
                       simpleKeyAllowed := s'.simpleKeyAllowed }

theorem Scanned.mk' {s : Sc} {m : Marker} {b c : Bool} (h1 : s.mark.index ≤ m.index) (h2 : s.mark.line ≤ m.line) :
    Scanned s { s with mark := m, leadingWhitespace := b, simpleKeyAllowed := c } := ⟨h1, h2, rfl⟩

/-- `s'` is `s` with anything but input, mark and token queue edited: the bookkeeping layer. -/
structure Booked (s s' : Sc) : Prop where
  inp : s'.inp = s.inp
  mark : s'.mark = s.mark
  tokens : s'.tokens = s.tokens

/-- `s'` is `s` with the mark moved forward and anything but the input edited: the `fetch_*` layer. -/
structure Fetched (s s' : Sc) : Prop where
  inp : s'.inp = s.inp
  index : s.mark.index ≤ s'.mark.index
  line : s.mark.line ≤ s'.mark.line

theorem Scanned.fetched {s s' : Sc} (h : Scanned s s') : Fetched s s' := ⟨by rw [h.rest], h.index, h.line⟩
theorem Booked.fetched {s s' : Sc} (h : Booked s s') : Fetched s s' := ⟨h.inp, by rw [h.mark]; exact Nat.le_refl _, by rw [h.mark]; exact Nat.le_refl _⟩

/-- `I`, with the panic sites `A` it tolerates, is kept by everything a scanning function is made of. -/
class Scan (A : Site → Prop) (I : Sc → Prop) : Prop where
  fuel : A .fuel
  inp : ∀ {α} {m : M In α} [InOp m], Keeps A I (liftI m)
  adv : ∀ {s s'}, Scanned s s' → I s → I s'

/-- … and by the bookkeeping; the structural sites are tolerated … -/
class Book (A : Site → Prop) (I : Sc → Prop) : Prop extends Scan A I where
  struct : ∀ {p}, StructSite p → A p
  upd : ∀ {s s'}, Booked s s' → I s → I s'

/-- … and by the `fetch_*` layer, which edits the token queue and may move the mark (`fetch_stream_end`). -/
class Fetch (A : Site → Prop) (I : Sc → Prop) : Prop extends Book A I where
  fwd : ∀ {s s'}, Fetched s s' → I s → I s'

theorem liftI_bind (m : M In α) (f : α → M In β) : liftI (m >>= f) = liftI m >>= fun a => liftI (f a) := by
  funext s
  simp only [liftI, Bind.bind]
  rcases m s.inp with ⟨a, i⟩ | e | p <;> rfl

theorem liftI_nextIs_str (q : Char → Bool) (e : Bool) (s : Sc) (hk : s.inp.kind = .str) :
    liftI (In.nextIs q e) s = .ok ((match s.inp.iter with | [] => e | c :: _ => q c), s) := by
  rw [liftI, In.nextIs_str q e s.inp hk]
  rfl

/-- An invariant that does not look at the input is kept by every input operation. -/
theorem Scan.ofBlind {A : Site → Prop} {I : Sc → Prop} (hA : ∀ {p}, ¬ StructSite p → A p)
    (hI : ∀ {s : Sc} (i : In), I s → I { s with inp := i }) (hadv : ∀ {s s'}, Scanned s s' → I s → I s') : Scan A I where
  fuel := hA (by simp [StructSite])
  inp := .liftI hI fun i p h => hA (InOp.site.out i p h)
  adv := hadv

theorem Book.ofBlind {A : Site → Prop} {I : Sc → Prop} (hA : ∀ {p}, A p)
    (hI : ∀ {s : Sc} (i : In), I s → I { s with inp := i }) (hadv : ∀ {s s'}, Scanned s s' → I s → I s')
    (hupd : ∀ {s s'}, Booked s s' → I s → I s') : Book A I where
  toScan := .ofBlind (fun _ => hA) hI hadv
  struct _ := hA
  upd := hupd

theorem Fetch.ofBlind {A : Site → Prop} {I : Sc → Prop} (hA : ∀ {p}, A p)
    (hI : ∀ {s : Sc} (i : In), I s → I { s with inp := i }) (hfwd : ∀ {s s'}, Fetched s s' → I s → I s') : Fetch A I where
  toBook := .ofBlind hA hI (fun h => hfwd h.fetched) fun h => hfwd h.fetched
  fwd := hfwd

/-- "a string input whose remaining text satisfies `J`", for a `J` that passes to suffixes: no site but `fuel`
and the structural ones is ever reached. -/
theorem Fetch.ofStr {A : Site → Prop} {J : Str → Prop} (hf : A .fuel) (hs : ∀ {p}, StructSite p → A p)
    (hJ : ∀ {t t'}, t' <:+ t → J t → J t') : Fetch A (fun s => s.inp.kind = .str ∧ J s.inp.iter) where
  fuel := hf
  inp {_ m _} := ⟨fun hI h => by
      obtain ⟨i, h1, rfl⟩ := liftI_ok_iff.1 h
      obtain ⟨h2, h3⟩ := InOp.str hI.1 h1
      exact ⟨h2, hJ h3 hI.2⟩,
    fun hI h => absurd (liftI_panic_iff.1 h) (InOp.strPanic hI.1)⟩
  adv h hI := by rw [h.rest]; exact hI
  struct := hs
  upd h hI := by rw [h.inp]; exact hI
  fwd h hI := by rw [h.inp]; exact hI

namespace Keeps
variable {A : Site → Prop} {I : Sc → Prop}

section
variable [Scan A I]

theorem fuel : Keeps A I (Sc.panicAt .fuel : S α) := panicAt (Scan.fuel I)
theorem adv {f : Sc → Sc} (h : ∀ s, Scanned s (f s)) : Keeps A I (Sc.modS f) := modS fun s => Scan.adv (A := A) (h s)

theorem plainGuard {fl : Bool} {X : S α} {f : Bool → S α} (hX : Keeps A I X) (hf : ∀ c, Keeps A I (f c)) :
    Keeps A I (Sc.liftI In.nextIsBlankOrBreakz >>= fun b =>
      if b = true then X else (Sc.liftI (In.nextCanBePlainScalar fl) >>= f)) := by
  -- the two questions are one input operation, `In.plainGuard`, and that one is an `InOp`
  have e : (Sc.liftI In.nextIsBlankOrBreakz >>= fun b =>
        if b = true then X else (Sc.liftI (In.nextCanBePlainScalar fl) >>= f)) =
      (Sc.liftI (In.plainGuard fl) >>= fun o => match o with | none => X | some c => f c) := by
    rw [In.plainGuard, liftI_bind, bind_assoc]
    refine congrArg _ (funext fun b => ?_)
    cases b
    · rw [if_neg Bool.false_ne_true, if_neg Bool.false_ne_true, liftI_bind, bind_assoc]; rfl
    · rfl
  rw [e]
  exact .bind Scan.inp fun o => by cases o; exact hX; exact hf _

end

section
variable [Book A I]
theorem struct {p : Site} (h : StructSite p) : Keeps A I (Sc.panicAt p : S α) := panicAt (Book.struct I h)
theorem upd {f : Sc → Sc} (h : ∀ s, Booked s (f s)) : Keeps A I (Sc.modS f) := modS fun s => Book.upd (A := A) (h s)
end

section
variable [Fetch A I]
theorem fwd {f : Sc → Sc} (h : ∀ s, Fetched s (f s)) : Keeps A I (Sc.modS f) := modS fun s => Fetch.fwd (A := A) (h s)
theorem edit {f : Sc → Sc} (h1 : ∀ s, (f s).inp = s.inp) (h2 : ∀ s, (f s).mark = s.mark) : Keeps A I (Sc.modS f) :=
  fwd fun s => ⟨h1 s, by rw [h2 s]; exact Nat.le_refl _, by rw [h2 s]; exact Nat.le_refl _⟩
end

end Keeps

macro_rules | `(tactic| keeps_node) => `(tactic| with_reducible apply Keeps.plainGuard)
/- The shape of the leaf is matched up to reducible unfolding only; what remains (a structural site, an edit of
   other fields) is closed by unfolding. Matching at default transparency would unfold every callee first. -/
macro_rules | `(tactic| keeps_leaf) => `(tactic| first
  | with_reducible exact Scan.inp | with_reducible exact Keeps.fuel
  | ((with_reducible refine Keeps.adv fun _ => ?_); exact Scanned.mk' (Nat.le_refl _) (Nat.le_refl _))
  | ((with_reducible refine Keeps.struct ?_); exact trivial)
  | ((with_reducible refine Keeps.upd fun _ => ?_); first | exact ⟨rfl, rfl, rfl⟩ | (split <;> exact ⟨rfl, rfl, rfl⟩))
  | ((with_reducible refine Keeps.edit (fun _ => ?_) (fun _ => ?_)) <;> rfl))

variable {A : Site → Prop} {I : Sc → Prop}

@[keeps] theorem Keeps.bufmaxlen : Keeps A I bufmaxlen := Keeps.read _
@[keeps] theorem Keeps.bufIsEmpty : Keeps A I bufIsEmpty := Keeps.read _
@[keeps] theorem Keeps.isWithinBlock : Keeps A I isWithinBlock := Keeps.read _

variable [Scan A I]

@[keeps] theorem Keeps.lookahead (n) : Keeps A I (lookahead n) := Scan.inp
@[keeps] theorem Keeps.peek : Keeps A I peek := Scan.inp
@[keeps] theorem Keeps.peekNth (n) : Keeps A I (peekNth n) := Scan.inp
@[keeps] theorem Keeps.lookCh : Keeps A I lookCh := Scan.inp
@[keeps] theorem Keeps.advance (n) : Keeps A I (advance n) :=
  Keeps.adv fun _ => Scanned.mk' (Nat.le_add_right _ _) (Nat.le_refl _)
@[keeps] theorem Keeps.skipBlank : Keeps A I skipBlank := by unfold Sc.skipBlank; keeps
@[keeps] theorem Keeps.skipNonBlank : Keeps A I skipNonBlank := by unfold Sc.skipNonBlank; keeps
@[keeps] theorem Keeps.skipNNonBlank (n) : Keeps A I (skipNNonBlank n) := by unfold Sc.skipNNonBlank; keeps
@[keeps] theorem Keeps.skipNl : Keeps A I skipNl :=
  Keeps.bind Scan.inp fun _ => Keeps.adv fun _ => Scanned.mk' (Nat.le_add_right _ _) (Nat.le_add_right _ _)
@[keeps] theorem Keeps.skipLinebreak : Keeps A I skipLinebreak := by unfold Sc.skipLinebreak; keeps
@[keeps] theorem Keeps.skipBreak : Keeps A I skipBreak := by unfold Sc.skipBreak; keeps
@[keeps] theorem Keeps.allowSimpleKey : Keeps A I allowSimpleKey := by unfold Sc.allowSimpleKey; keeps
@[keeps] theorem Keeps.disallowSimpleKey : Keeps A I disallowSimpleKey := by unfold Sc.disallowSimpleKey; keeps
@[keeps] theorem Keeps.skipWsToEol_yes : Keeps A I (skipWsToEol .yes) := by unfold Sc.skipWsToEol; keeps
@[keeps] theorem Keeps.skipWsToEol_no : Keeps A I (skipWsToEol .no) := by unfold Sc.skipWsToEol; keeps

end SaphyrModel.Sc
