import Lean.Meta.Tactic.Simp.RegisterCommand
/-- `Keeps A I f`, one lemma per function `f`: what the tactic `keeps` closes a call of `f` with. -/
register_simp_attr keeps
