import SaphyrModel.Sc.Keeps
/-! The structural panic sites, and framing: what the scanning functions leave alone in the scanner state. -/
namespace SaphyrModel.Sc
open SaphyrModel

/-- panic sites whose safety depends on the structural invariants I1–I3 -/
def StructSite : Site → Prop
  | .indentsPopUnwrap | .indentsLastUnwrap | .simpleKeysLastUnwrap | .simpleKeysPopUnwrap
  | .insertTokenAssert | .tokenNumberUnderflow => True
  | _ => False

/-- `s'` agrees with `s` on every field that I1–I3 speak of, up to tokens appended at the back of the queue -/
structure Frame (s s' : Sc) : Prop where
  indent : s'.indent = s.indent
  indents : s'.indents = s.indents
  keys : s'.simpleKeys = s.simpleKeys
  flow : s'.flowLevel = s.flowLevel
  parsed : s'.tokensParsed = s.tokensParsed
  started : s'.streamStartProduced = s.streamStartProduced
  toks : ∃ extra, s'.tokens = s.tokens ++ extra

theorem Frame.refl (s : Sc) : Frame s s := ⟨rfl, rfl, rfl, rfl, rfl, rfl, ⟨[], by simp⟩⟩
theorem Frame.trans {a b c : Sc} (h1 : Frame a b) (h2 : Frame b c) : Frame a c := by
  obtain ⟨e1, he1⟩ := h1.toks; obtain ⟨e2, he2⟩ := h2.toks
  exact ⟨h2.indent.trans h1.indent, h2.indents.trans h1.indents, h2.keys.trans h1.keys,
    h2.flow.trans h1.flow, h2.parsed.trans h1.parsed, h2.started.trans h1.started,
    ⟨e1 ++ e2, by rw [he2, he1, List.append_assoc]⟩⟩

structure NoStruct (m : M In α) : Prop where
  out : ∀ i p, m i = .panic p → ¬ StructSite p

structure Frames (m : S α) : Prop where
  out : ∀ s, match m s with
    | .ok (_, s') => Frame s s'
    | .err _ => True
    | .panic p => ¬ StructSite p

theorem NoStruct.iff {m : M In α} : NoStruct m ↔ Keeps (¬ StructSite ·) (fun _ => True) m :=
  ⟨fun h => ⟨fun _ _ => trivial, fun _ hm => h.out _ _ hm⟩, fun h => ⟨fun _ _ hm => h.panic trivial hm⟩⟩

theorem Frames.iff {m : S α} : Frames m ↔ ∀ s0, Keeps (¬ StructSite ·) (Frame s0) m := by
  constructor
  · intro h s0
    constructor
    · intro s _ _ hs hm; have := h.out s; rw [hm] at this; exact hs.trans this
    · intro s _ _ hm; have := h.out s; rw [hm] at this; exact this
  · intro h; constructor; intro s
    cases hm : m s with
    | ok r => exact (h s).ok (Frame.refl s) hm
    | err e => trivial
    | panic p => exact (h s).panic (Frame.refl s) hm

theorem Frames.bind {m : S α} {f : α → S β} (h1 : Frames m) (h2 : ∀ a, Frames (f a)) :
    Frames (m >>= f) :=
  Frames.iff.2 fun s0 => (Frames.iff.1 h1 s0).bind fun a => Frames.iff.1 (h2 a) s0

theorem Frames.ite {c : Prop} [Decidable c] {a b : S α} (ha : Frames a) (hb : Frames b) :
    Frames (if c then a else b) := by split <;> assumption

theorem Frames.modS (f : Sc → Sc) (h : ∀ s, Frame s (f s)) : Frames (modS f) := ⟨fun s => h s⟩

end SaphyrModel.Sc
