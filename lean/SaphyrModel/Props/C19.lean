import SaphyrModel.Proofs.Erase
/-! # C19 — All node types and loading modes hold the same data (loader model)

The four Rust node types are one model type: the marked kinds carry spans, the bare kinds have the
default span everywhere (`LCfg.marked`); owned vs borrowed differ only in string ownership, which
the model does not distinguish. -/
namespace SaphyrModel.C19

/-- resolving leaves already-resolved nodes untouched: `parse_representation` changes only
    `Representation` nodes -/
theorem parseRepr_resolved (n : Node) (h : ∀ sp v st t, n ≠ .repr sp v st t) : parseRepr n = n := by
  cases n with
  | repr sp v st t => exact absurd rfl (h sp v st t)
  | _ => simp [parseRepr]

/-- … and so does the recursive variant on leaves that are not representations -/
theorem parseReprRec_leaf (n : Node) (hr : ∀ sp v st t, n ≠ .repr sp v st t)
    (hs : ∀ sp xs, n ≠ .seq sp xs) (hm : ∀ sp ps, n ≠ .map sp ps) : parseReprRec n = n := by
  cases n with
  | repr sp v st t => exact absurd rfl (hr sp v st t)
  | seq sp xs => exact absurd rfl (hs sp xs)
  | map sp ps => exact absurd rfl (hm sp ps)
  | _ => simp [parseReprRec]

/-- a sequence is resolved element-wise and keeps its length and order (the site of finding D1, DESIGN.md) -/
theorem parseReprRec_seq (sp : Span) (xs : List Node) :
    parseReprRec (.seq sp xs) = .seq sp (parseReprList xs) := by simp [parseReprRec]

theorem parseReprList_length (xs : List Node) : (parseReprList xs).length = xs.length := by
  induction xs with
  | nil => simp [parseReprList]
  | cons x r ih => simp [parseReprList, ih]

/-- deferred resolution of a scalar equals eager resolution: resolving the `Representation` the lazy
    loader stores gives the node the eager loader stores (same span) -/
theorem lazy_scalar_eq_eager (marked : Bool) (v : Str) (st : ScalarStyle) (tag : Option Tag) (sp : Span) :
    parseRepr (Node.withSpan marked (scalarNode false v st tag) sp) =
      Node.withSpan marked (scalarNode true v st tag) sp := by
  unfold scalarNode
  simp only [Bool.false_eq_true, ↓reduceIte]
  cases marked <;> cases h : parseWithMeta v st tag <;> simp [Node.withSpan, parseRepr, h]

/-- equality of nodes ignores spans: re-spanning a node does not change what it is equal to -/
theorem eqv_withSpan (a b : Node) (sp : Span) : Node.eqv (Node.withSpan true a sp) b = Node.eqv a b := by
  rw [← eqv_erase_left, withSpan_erase, eqv_erase_left]

/-- **Marked and bare node types hold the same data, for every event list.** Loading any event
    sequence (well nested or not, eager or deferred scalars) into the marked node type and then
    forgetting the spans gives exactly what loading it into the bare node type gives — the same
    documents, the same open collections, the same anchor table, and a panic site in one exactly when
    in the other. Marked nodes differ from bare ones only by carrying spans. -/
theorem kinds_agree (early : Bool) (evs : List (Event × Span)) :
    foldEvents ⟨false, early⟩ {} evs = (foldEvents ⟨true, early⟩ {} evs).erase :=
  foldEvents_erase early {} evs

/-- equality (and therefore hashing-by-equality lookups) of marked nodes ignores the spans entirely -/
theorem marked_eq_ignores_spans (a b : Node) : Node.eqv a.erase b.erase = Node.eqv a b := eqv_erase a b

/-- non-vacuity: a marked load of `[x]` really carries spans that the bare load does not -/
example :
    let sp : Span := ⟨⟨2, 1, 2⟩, ⟨3, 1, 3⟩⟩
    let evs : List (Event × Span) := [(.sequenceStart 0 none, sp), (.scalar ['x'] .plain 0 none, sp), (.sequenceEnd, sp)]
    (match foldEvents ⟨true, true⟩ {} evs with | .ok s => s.docStack.map (fun p : Node × Nat => Node.isBad p.1 || (match p.1 with | .seq sp _ => sp.start.index == 2 | _ => false)) | .panic _ => []) ≠
    (match foldEvents ⟨false, true⟩ {} evs with | .ok s => s.docStack.map (fun p : Node × Nat => Node.isBad p.1 || (match p.1 with | .seq sp _ => sp.start.index == 2 | _ => false)) | .panic _ => []) := by decide

end SaphyrModel.C19
