import SaphyrModel.Proofs.BlockToken
/-! # C14 — Line-break style does not change the parse (component theorems)

The character tests the scanner applies cannot tell LF from CR (`classes_break_blind`), and `skip_linebreak`
advances the position identically on LF, CR LF and a lone CR (`skipLinebreak_same_position`, string input). For
block scalars the property is proved for every input of that shape, on a string input — any number of lines, any
indentation, the three spellings chosen independently per line: the content loop of a literal scalar
(`literal_block_break_blind`) and the whole token, literal or folded (`literal_block_token_break_blind`,
`folded_block_token_break_blind`), give the same text — breaks reported as line feeds — and the same lines and
columns; only the indices differ. The whole-scanner relational theorem is not attempted; the check compares the
implementation with itself under both substitutions. -/
namespace SaphyrModel.C14
open SaphyrModel.Sc

/-- every character class of `char_traits` gives LF and CR the same answer -/
theorem classes_break_blind :
    isZ '\n' = isZ '\r' ∧ isBreak '\n' = isBreak '\r' ∧ isBreakz '\n' = isBreakz '\r' ∧
    isBlank '\n' = isBlank '\r' ∧ isBlankOrBreakz '\n' = isBlankOrBreakz '\r' ∧ isDigit '\n' = isDigit '\r' ∧
    isAlpha '\n' = isAlpha '\r' ∧ isHex '\n' = isHex '\r' ∧ isFlow '\n' = isFlow '\r' ∧ isBom '\n' = isBom '\r' ∧
    isYamlNonBreak '\n' = isYamlNonBreak '\r' ∧ isYamlNonSpace '\n' = isYamlNonSpace '\r' ∧
    isAnchorChar '\n' = isAnchorChar '\r' ∧ isWordChar '\n' = isWordChar '\r' ∧ isUriChar '\n' = isUriChar '\r' ∧
    isTagChar '\n' = isTagChar '\r' := by decide

/-- `skip_linebreak` on a string input: after LF, after CR LF and after a lone CR (followed by any
    non-LF character) the reported line and column are the same: next line, column 0 -/
theorem skipLinebreak_same_position (s : Sc) (rest : Str) (c : Char) (hk : s.inp.kind = .str) (hc : c ≠ '\n') :
    let run (text : Str) := skipLinebreak { s with inp := { s.inp with iter := text } }
    (match run ('\n' :: c :: rest), run ('\r' :: '\n' :: c :: rest), run ('\r' :: c :: rest) with
     | .ok (_, a), .ok (_, b), .ok (_, d) =>
       a.mark.line = s.mark.line + 1 ∧ a.mark.col = 0 ∧ b.mark.line = a.mark.line ∧ b.mark.col = 0 ∧
       d.mark.line = a.mark.line ∧ d.mark.col = 0 ∧
       a.inp.iter = c :: rest ∧ b.inp.iter = c :: rest ∧ d.inp.iter = c :: rest
     | _, _, _ => False) := by
  have hc' : (c == '\n') = false := by simpa using hc
  simp [skipLinebreak, skipBlank, skipNl, liftI, In.next2Are, In.nextIsBreak, In.nextIs, In.skip, advance, modS,
    Bind.bind, hk, isBreak, hc']

open SaphyrModel.C14L in
theorem same_lines {ls1 ls2 : List (Str × Brk)} (hsame : ls1.map Prod.fst = ls2.map Prod.fst) :
    ls2.length = ls1.length ∧ ∀ P : Str → Prop, (∀ p ∈ ls1, P p.1) → ∀ p ∈ ls2, P p.1 :=
  ⟨by simpa using (congrArg List.length hsame).symm,
   fun _ h => List.forall_mem_map.1 (hsame ▸ List.forall_mem_map.2 h)⟩

open SaphyrModel.C14L SaphyrModel.C05 in
/-- **The content of a literal block scalar does not depend on the spelling of its line breaks — for every
    list of lines.** Take any content lines (non-empty, free of breaks and NUL), indented by `ind ≥ 1`, and end
    each of them by a line feed, CR LF or a lone CR, independently per line and differently in two texts; let the
    text continue with anything that does not start with a space or a break. From two string-input states on the
    same line and column, whenever both content loops complete they return the same text (in which every break is
    a line feed), the same pending breaks, and leave the scanner on the same line and in column 0 in front of the
    same continuation. Only character indices may differ. -/
theorem literal_block_break_blind (ind : Nat) (hind : ind ≠ 0) (tail : Str) (ht1 : tail.headD '\x00' ≠ ' ')
    (ht2 : isBreak (tail.headD '\x00') = false)
    (l : Str) (b1 b2 : Brk) (ls1 ls2 : List (Str × Brk)) (hsame : ls1.map Prod.fst = ls2.map Prod.fst)
    (hl : GoodLine l) (hls : ∀ p ∈ ls1, GoodLine p.1)
    (a : BlkAcc) (s1 s2 : Sc) (f1 f2 : Nat)
    (hk1 : s1.inp.kind = .str) (hk2 : s2.inp.kind = .str) (hc1 : s1.mark.col = ind) (hc2 : s2.mark.col = ind)
    (hline : s1.mark.line = s2.mark.line)
    (hi1 : s1.inp.iter = l ++ (b1.txt ++ restLinesB ind ls1 tail))
    (hi2 : s2.inp.iter = l ++ (b2.txt ++ restLinesB ind ls2 tail))
    (r1 r2 : BlkAcc) (t1 t2 : Sc)
    (h1 : blockScalarLines true ind f1 a s1 = .ok (r1, t1)) (h2 : blockScalarLines true ind f2 a s2 = .ok (r2, t2)) :
    r1.str = r2.str ∧ r1.leadingBreak = r2.leadingBreak ∧ r1.trailingBreaks = r2.trailingBreaks ∧
    t1.mark.line = t2.mark.line ∧ t1.mark.col = t2.mark.col ∧ t1.inp.iter = t2.inp.iter ∧
    (∀ c ∈ r1.str.drop (a.str ++ a.leadingBreak ++ a.trailingBreaks).length, c ≠ '\r') := by
  obtain ⟨hlen, hall⟩ := same_lines hsame
  rcases literal_lines_any_break ind hind tail ht1 ht2 ls1 l b1 a s1 f1 hl hls hk1 hc1 hi1 with ⟨p, hp⟩ | ⟨u1, bl1, e1, _, i1, c1, n1, _⟩
  · rw [hp] at h1; cases h1
  rcases literal_lines_any_break ind hind tail ht1 ht2 ls2 l b2 a s2 f2 hl (hall _ hls) hk2 hc2 hi2 with ⟨p, hp⟩ | ⟨u2, bl2, e2, _, i2, c2, n2, _⟩
  · rw [hp] at h2; cases h2
  rw [e1] at h1; rw [e2] at h2
  cases h1; cases h2
  refine ⟨by simp only [joinB, hsame], rfl, rfl, by rw [n1, n2, hline, hlen], by rw [c1, c2], by rw [i1, i2], ?_⟩
  intro c hc
  simp only [List.drop_left'] at hc
  exact joinLines_no_cr (ls1.map Prod.fst) l hl.2 (List.forall_mem_map.2 fun q hq => (hls q hq).2) c hc

/-- non-vacuity: two content lines `ab`, `c` at indentation 1, ended by CR LF and a lone CR in one text and by
    line feeds in the other, continue with `x`: both content loops complete, with `ab\nc`, on line 4, column 0 -/
example :
    let st (t : Str) : Sc := { mkSc .str 0 t with mark := ⟨3, 2, 1⟩ }
    let out (t : Str) : Option (Str × Nat × Nat × Str) :=
      match blockScalarLines true 1 20 ⟨[], [], [], false⟩ (st t) with
      | .ok (r, s) => some (r.str, s.mark.line, s.mark.col, s.inp.iter)
      | _ => none
    out ['a','b','\r','\n',' ','c','\r','x'] = some (['a','b','\n','c'], 4, 0, ['x']) ∧
    out ['a','b','\n',' ','c','\n','x'] = out ['a','b','\r','\n',' ','c','\r','x'] := by decide +kernel

open SaphyrModel.C14L SaphyrModel.C05 SaphyrModel.C05T in
/-- **A whole block scalar, literal or folded, gives the same token under every spelling of its line breaks**: what the
    token-level theorem says of the token and of where the scanner stands mentions the breaks only in the indices -/
theorem block_token_break_blind (lit : Bool) (sm1 sm2 : Marker) (hd : Hdr) (ind : Nat) (hind : ind ≠ 0) (tail : Str)
    (ht1 : tail.headD '\x00' ≠ ' ') (ht2 : isBreak (tail.headD '\x00') = false)
    (l : Str) (a1 a2 b1 b2 : Brk) (ls1 ls2 : List (Str × Brk)) (hsame : ls1.map Prod.fst = ls2.map Prod.fst)
    (hl : GoodLine l) (hl1 : l.headD '\x00' ≠ ' ') (hls : ∀ p ∈ ls1, GoodLine p.1)
    (u1 u2 : Sc) (hk1 : u1.inp.kind = .str) (hk2 : u2.inp.kind = .str) (hline : u1.mark.line = u2.mark.line)
    (hind12 : u1.indent = u2.indent) (hI : (u1.indent + 1).toNat ≤ ind)
    (hi1 : u1.inp.iter = hd.txt ++ (a1.txt ++ (List.replicate ind ' ' ++ (l ++ (b1.txt ++ restLinesB ind ls1 tail)))))
    (hi2 : u2.inp.iter = hd.txt ++ (a2.txt ++ (List.replicate ind ' ' ++ (l ++ (b2.txt ++ restLinesB ind ls2 tail)))))
    (t1 t2 : Token) (v1 v2 : Sc)
    (h1 : scanBlockScalarBody lit sm1 u1 = .ok (t1, v1)) (h2 : scanBlockScalarBody lit sm2 u2 = .ok (t2, v2)) :
    t1.ty = t2.ty ∧ t1.span.start.line = t2.span.start.line ∧ t1.span.start.col = t2.span.start.col ∧
    t1.span.stop.line = t2.span.stop.line ∧ t1.span.stop.col = t2.span.stop.col ∧
    v1.inp.iter = v2.inp.iter ∧ v1.mark.line = v2.mark.line ∧ v1.mark.col = v2.mark.col := by
  obtain ⟨hlen, hall⟩ := same_lines hsame
  obtain ⟨⟨x1, x2, x3, x4, x5, _⟩, _, y2, y3, y4, _⟩ := (block_token lit sm1 hd a1 ind hind tail ht1 ht2 ls1 l b1 hl hl1 hls u1 _ _ _ _ hI
    ⟨hk1, hi1, rfl, rfl, rfl, rfl⟩).of_ok h1
  obtain ⟨⟨z1, z2, z3, z4, z5, _⟩, _, q2, q3, q4, _⟩ := (block_token lit sm2 hd a2 ind hind tail ht1 ht2 ls2 l b2 hl hl1 (hall _ hls)
    u2 _ _ _ _ (hind12 ▸ hI) ⟨hk2, hi2, hline.symm, rfl, rfl, rfl⟩).of_ok h2
  rw [blockText, linesAcc, ← hsame, ← linesAcc, ← blockText] at z1
  rw [hlen] at z4 q3
  exact ⟨x1.trans z1.symm, x2.trans z2.symm, x3.trans z3.symm, x4.trans z4.symm, x5.trans z5.symm,
    y2.trans q2.symm, y3.trans q3.symm, y4.trans q4.symm⟩

open SaphyrModel.C14L SaphyrModel.C05 SaphyrModel.C05T in
/-- **A whole literal block scalar gives the same token under every spelling of its line breaks.** Two texts
    hold the same literal block scalar — same header (nothing, `-`, `+`), same content lines at the same
    indentation, same continuation — but spell each line break (the one that ends the header line included)
    independently as LF, CR LF or a lone CR. Scanned from two string-input states on the same line with the same
    parent indentation, whenever both scans complete the two tokens are the same scalar (same style, same text,
    in which every break is a line feed) and start and end on the same lines and in the same columns, and both
    scanners stand on the same line, in the same column, in front of the same rest. -/
theorem literal_block_token_break_blind (sm1 sm2 : Marker) (hd : Hdr) (ind : Nat) (hind : ind ≠ 0) (tail : Str)
    (ht1 : tail.headD '\x00' ≠ ' ') (ht2 : isBreak (tail.headD '\x00') = false)
    (l : Str) (a1 a2 b1 b2 : Brk) (ls1 ls2 : List (Str × Brk)) (hsame : ls1.map Prod.fst = ls2.map Prod.fst)
    (hl : GoodLine l) (hl1 : l.headD '\x00' ≠ ' ') (hls : ∀ p ∈ ls1, GoodLine p.1)
    (u1 u2 : Sc) (hk1 : u1.inp.kind = .str) (hk2 : u2.inp.kind = .str) (hline : u1.mark.line = u2.mark.line)
    (hind12 : u1.indent = u2.indent) (hI : (u1.indent + 1).toNat ≤ ind)
    (hi1 : u1.inp.iter = hd.txt ++ (a1.txt ++ (List.replicate ind ' ' ++ (l ++ (b1.txt ++ restLinesB ind ls1 tail)))))
    (hi2 : u2.inp.iter = hd.txt ++ (a2.txt ++ (List.replicate ind ' ' ++ (l ++ (b2.txt ++ restLinesB ind ls2 tail)))))
    (t1 t2 : Token) (v1 v2 : Sc)
    (h1 : scanBlockScalarBody true sm1 u1 = .ok (t1, v1)) (h2 : scanBlockScalarBody true sm2 u2 = .ok (t2, v2)) :
    t1.ty = t2.ty ∧ t1.span.start.line = t2.span.start.line ∧ t1.span.start.col = t2.span.start.col ∧
    t1.span.stop.line = t2.span.stop.line ∧ t1.span.stop.col = t2.span.stop.col ∧
    v1.inp.iter = v2.inp.iter ∧ v1.mark.line = v2.mark.line ∧ v1.mark.col = v2.mark.col :=
  block_token_break_blind true sm1 sm2 hd ind hind tail ht1 ht2 l a1 a2 b1 b2 ls1 ls2 hsame hl hl1 hls u1 u2 hk1 hk2 hline hind12 hI
    hi1 hi2 t1 t2 v1 v2 h1 h2

open SaphyrModel.C14L SaphyrModel.C05T SaphyrModel.C05F in
/-- the same for the folded style (content lines that do not start with a blank): same token — the lines joined
    by single spaces — under every spelling of every line break -/
theorem folded_block_token_break_blind (sm1 sm2 : Marker) (hd : Hdr) (ind : Nat) (hind : ind ≠ 0) (tail : Str)
    (ht1 : tail.headD '\x00' ≠ ' ') (ht2 : isBreak (tail.headD '\x00') = false)
    (l : Str) (a1 a2 b1 b2 : Brk) (ls1 ls2 : List (Str × Brk)) (hsame : ls1.map Prod.fst = ls2.map Prod.fst)
    (hl : FoldLine l) (hls : ∀ p ∈ ls1, FoldLine p.1)
    (u1 u2 : Sc) (hk1 : u1.inp.kind = .str) (hk2 : u2.inp.kind = .str) (hline : u1.mark.line = u2.mark.line)
    (hind12 : u1.indent = u2.indent) (hI : (u1.indent + 1).toNat ≤ ind)
    (hi1 : u1.inp.iter = hd.txt ++ (a1.txt ++ (List.replicate ind ' ' ++ (l ++ (b1.txt ++ restLinesB ind ls1 tail)))))
    (hi2 : u2.inp.iter = hd.txt ++ (a2.txt ++ (List.replicate ind ' ' ++ (l ++ (b2.txt ++ restLinesB ind ls2 tail)))))
    (t1 t2 : Token) (v1 v2 : Sc)
    (h1 : scanBlockScalarBody false sm1 u1 = .ok (t1, v1)) (h2 : scanBlockScalarBody false sm2 u2 = .ok (t2, v2)) :
    t1.ty = t2.ty ∧ t1.span.start.line = t2.span.start.line ∧ t1.span.start.col = t2.span.start.col ∧
    t1.span.stop.line = t2.span.stop.line ∧ t1.span.stop.col = t2.span.stop.col ∧
    v1.inp.iter = v2.inp.iter ∧ v1.mark.line = v2.mark.line ∧ v1.mark.col = v2.mark.col :=
  block_token_break_blind false sm1 sm2 hd ind hind tail ht1 ht2 l a1 a2 b1 b2 ls1 ls2 hsame hl.1 (fold_head hl)
    (fun p hp => (hls p hp).1) u1 u2 hk1 hk2 hline hind12 hI hi1 hi2 t1 t2 v1 v2 h1 h2

end SaphyrModel.C14
