import SaphyrModel.Proofs.BlockToken
/-! # C05 — Block scalars (function-level theorems)

Except `readBreak_appends_lf`, every theorem here is for the string input (`kind = .str`). The whole-scalar theorems
are `literal_block_scalar_token` (`|`) and `folded_block_scalar_token` (`>`): every list of content lines, every
detected indentation ≥ 1, no chomping indicator or `-` or `+`, every spelling of each break. `literal_content_lines`,
`literal_chomping'`, `content_line_read_verbatim`, `indentation_skipped` and `readBreak_appends_lf` are about the
functions the block-scalar scanner is made of.

**Not proved**: in folded style the more-indented and blank lines (which are not folded), blank and more- or
less-indented line bookkeeping between content lines, explicit indentation indicators, the end-of-stream cases. For
those the check relies on the exhaustive enumeration of line lists against the independent §8.1 reference and
on the correspondence. -/
namespace SaphyrModel.C05
open SaphyrModel.Sc

/-- `read_break`: whichever break was consumed (LF, CR LF or CR), exactly one `'\n'` is appended to
    the scalar text -/
theorem readBreak_appends_lf (acc : Str) (s : Sc) :
    match readBreak acc s with
    | .ok (r, _) => r = acc ++ ['\n']
    | _ => True := by
  unfold readBreak
  simp only [Bind.bind]
  cases skipBreak s with
  | ok r => obtain ⟨_, s'⟩ := r; simp [Pure.pure]
  | err e => trivial
  | panic p => trivial

/-- **The content lines of a literal block scalar are read verbatim.** The scanner stands at the first character of
    the first of `n ≥ 1` content lines `l :: ls`, each indented by exactly the content indentation `ind ≥ 1` and ended
    by a line feed, followed by a less indented line or the end of the input (`tail` starts with neither a space nor
    a break). Unless it stops at a panic site, the content loop appends to the accumulated prefix the lines verbatim,
    joined by single line feeds (nothing added, dropped or folded; further spaces at the start of a line are
    content), leaves one pending line feed and no trailing breaks, and stops in column 0 in front of `tail`
    (`literal_lines` of `Proofs/BlockLines.lean`). -/
theorem literal_content_lines (ind : Nat) (hind : ind ≠ 0) (tail : Str) (ht1 : tail.headD '\x00' ≠ ' ')
    (ht2 : isBreak (tail.headD '\x00') = false) (ls : List Str) (l : Str) (a : BlkAcc) (s : Sc) (fuel : Nat)
    (hl : GoodLine l) (hls : ∀ l' ∈ ls, GoodLine l') (hk : s.inp.kind = .str) (hcol : s.mark.col = ind)
    (hi : s.inp.iter = l ++ '\n' :: restLines ind ls tail) :
    (∃ p, blockScalarLines true ind fuel a s = .panic p) ∨
    ∃ s' b, blockScalarLines true ind fuel a s =
        .ok (⟨a.str ++ a.leadingBreak ++ a.trailingBreaks ++ joinLines l ls, ['\n'], [], b⟩, s') ∧
      s'.inp.kind = .str ∧ s'.inp.iter = tail ∧ s'.mark.col = 0 :=
  literal_lines ind hind tail ht1 ht2 ls l a s fuel hl hls hk hcol hi

/-- chomping of a literal block scalar without trailing blank lines: strip — no final break; clip, keep — one -/
theorem literal_chomping' (chomping : Chomping) (ind : Nat) (content : Str) (b : Bool) (s : Sc)
    (hk : s.inp.kind = .str) (hcol : s.mark.col = 0) :
    blockFinish chomping ind ⟨content, ['\n'], [], b⟩ s s =
      .ok ((match chomping with | .strip => content | _ => content ++ ['\n']), s) :=
  literal_chomping chomping ind content b s hk hcol

/-- a content line is read verbatim up to the next break or the end — on a string input, whichever of the two
    paths (look-ahead buffer or raw reads) is taken -/
theorem content_line_read_verbatim (str : Str) (s : Sc) (hk : s.inp.kind = .str) :
    (∃ p, scanBlockScalarContentLine str s = .panic p) ∨
    scanBlockScalarContentLine str s = .ok (str ++ s.inp.iter.takeWhile C10.nb,
      C10.advS s (s.inp.iter.takeWhile C10.nb).length { s.inp with iter := s.inp.iter.dropWhile C10.nb }) :=
  C10.line_str str s hk

/-- the spaces in front of a block-scalar line are skipped up to the content indentation and no further — on a
    string input, whichever path (one look-ahead request or the refill loop) is taken -/
theorem indentation_skipped (ind : Nat) (u : Sc) (hk : u.inp.kind = .str) :
    (∃ p, C10.indentPart ind u = .panic p) ∨
    ∃ la', C10.indentPart ind u = .ok ((), C10.advS u (C10.spc (ind - u.mark.col) u.inp.iter)
      { u.inp with iter := u.inp.iter.drop (C10.spc (ind - u.mark.col) u.inp.iter), la := la' }) :=
  C10.part_str ind u hk

/-- the hypotheses of `literal_content_lines` are met by ordinary lines -/
example : GoodLine "a b".toList ∧ GoodLine "  more indented".toList ∧
    restLines 2 ["x".toList] "k: v".toList = "  x\nk: v".toList ∧ joinLines "a".toList ["b".toList, "c".toList] = "a\nb\nc".toList := by
  refine ⟨⟨by decide, by decide⟩, ⟨by decide, by decide⟩, by decide, by decide⟩

open SaphyrModel.C14L SaphyrModel.C05T in
/-- **A whole literal block scalar is scanned to the token the specification prescribes — for every list of
    content lines.** The scanner stands just after the `|` of a literal block scalar (string input, line `L`,
    parent indentation `u.indent`). What follows is: the header `hd` (nothing, `-` or `+`); a line break in any
    spelling; a first content line `l` indented by `ind ≥ 1` spaces (deeper than the parent, not starting with a space)
    and any number of further lines `ls` indented alike (these may start with more spaces: they are content);
    every line is non-empty, free of breaks and NUL, and ends with its own spelling of a break; then text that
    does not start with a space or a break. The scanner either stops at a panic site (the first disjunct,
    `∃ p, … = .panic p`: any site, a loop running out of its fuel among them) or returns a token that is a
    *literal scalar* whose text is exactly the lines joined by single line feeds, followed by one line feed unless
    the header says strip; the token starts on line `L + 1` in column `ind` and ends in column 0 of the line after
    the last content line, where the scanner now stands in front of the rest. -/
theorem literal_block_scalar_token (sm : Marker) (hd : Hdr) (b0 : Brk) (ind : Nat) (hind : ind ≠ 0) (tail : Str)
    (ht1 : tail.headD '\x00' ≠ ' ') (ht2 : isBreak (tail.headD '\x00') = false) (ls : List (Str × Brk)) (l : Str) (b : Brk)
    (hl : GoodLine l) (hl1 : l.headD '\x00' ≠ ' ') (hls : ∀ p ∈ ls, GoodLine p.1) (u : Sc) (L : Nat)
    (hI : (u.indent + 1).toNat ≤ ind) (hk : u.inp.kind = .str) (hline : u.mark.line = L)
    (hi : u.inp.iter = hd.txt ++ (b0.txt ++ (List.replicate ind ' ' ++ (l ++ (b.txt ++ restLinesB ind ls tail))))) :
    (∃ p, scanBlockScalarBody true sm u = .panic p) ∨
    ∃ tok u', scanBlockScalarBody true sm u = .ok (tok, u') ∧
      tok.ty = .scalar .literal (chomped hd.chomp (joinLines l (ls.map Prod.fst))) ∧
      tok.span.start.line = L + 1 ∧ tok.span.start.col = ind ∧
      tok.span.stop.line = L + 1 + ls.length + 1 ∧ tok.span.stop.col = 0 ∧
      u'.inp.iter = tail ∧ u'.mark.line = L + 1 + ls.length + 1 ∧ u'.mark.col = 0 :=
  (block_token true sm hd b0 ind hind tail ht1 ht2 ls l b hl hl1 hls u L u.mark.col u.indent _ hI
      ⟨hk, hi, hline, rfl, rfl, rfl⟩).mono
    fun _ _ ⟨⟨h1, h2, h3, h4, h5, _, _⟩, _, h7, h8, h9, _⟩ =>
      ⟨by rw [h1, blockText, linesAcc_literal]; rfl, h2, h3, h4, h5, h7, h8, h9⟩

/-- non-vacuity: `|-`, CR LF, then the lines `ab` (LF) and ` c` (lone CR) at indentation 2 under a parent at
    indentation 0, then `x`: the token is the literal scalar `ab\n c` on lines 2–4 -/
example :
    (match scanBlockScalarBody true ⟨4, 1, 3⟩
        { mkSc .str 0 ['-','\r','\n',' ',' ','a','b','\n',' ',' ',' ','c','\r','x'] with indent := 0, mark := ⟨5, 1, 4⟩ } with
     | .ok (tok, u') => decide (tok.ty = .scalar .literal ['a','b','\n',' ','c']) && tok.span.start.line == 2 &&
         tok.span.start.col == 2 && tok.span.stop.line == 4 && tok.span.stop.col == 0 && decide (u'.inp.iter = ['x'])
     | _ => false) = true := by decide +kernel

open SaphyrModel.C14L SaphyrModel.C05T SaphyrModel.C05F in
/-- **A whole folded block scalar: single line breaks between text lines become single spaces — for every list
    of lines.** As `literal_block_scalar_token`, after a `>`: header (nothing, `-` or `+`), a break in any spelling,
    a first content line indented by `ind ≥ 1` spaces and any number of further lines at that indentation, every line
    non-empty, free of breaks and NUL and *not starting with a blank*, each ended by its own spelling of a break;
    then text that does not start with a space or a break. Unless the scanner stops at a panic site (first
    disjunct, as there), the token returned is a *folded scalar* whose text is the lines joined by single spaces,
    followed by one line feed unless the header says strip; its span is as in the literal case. -/
theorem folded_block_scalar_token (sm : Marker) (hd : Hdr) (b0 : Brk) (ind : Nat) (hind : ind ≠ 0) (tail : Str)
    (ht1 : tail.headD '\x00' ≠ ' ') (ht2 : isBreak (tail.headD '\x00') = false) (ls : List (Str × Brk)) (l : Str) (b : Brk)
    (hl : FoldLine l) (hls : ∀ p ∈ ls, FoldLine p.1) (u : Sc) (L : Nat)
    (hI : (u.indent + 1).toNat ≤ ind) (hk : u.inp.kind = .str) (hline : u.mark.line = L)
    (hi : u.inp.iter = hd.txt ++ (b0.txt ++ (List.replicate ind ' ' ++ (l ++ (b.txt ++ restLinesB ind ls tail))))) :
    (∃ p, scanBlockScalarBody false sm u = .panic p) ∨
    ∃ tok u', scanBlockScalarBody false sm u = .ok (tok, u') ∧
      tok.ty = .scalar .folded (chomped hd.chomp (joinSp l (ls.map Prod.fst))) ∧
      tok.span.start.line = L + 1 ∧ tok.span.start.col = ind ∧
      tok.span.stop.line = L + 1 + ls.length + 1 ∧ tok.span.stop.col = 0 ∧
      u'.inp.iter = tail ∧ u'.mark.line = L + 1 + ls.length + 1 ∧ u'.mark.col = 0 :=
  (block_token false sm hd b0 ind hind tail ht1 ht2 ls l b hl.1 (fold_head hl) (fun p hp => (hls p hp).1) u L u.mark.col u.indent _ hI
      ⟨hk, hi, hline, rfl, rfl, rfl⟩).mono
    fun _ _ ⟨⟨h1, h2, h3, h4, h5, _, _⟩, _, h7, h8, h9, _⟩ =>
      ⟨by rw [h1, blockText, linesAcc_folded ls _ l hl hls]; rfl, h2, h3, h4, h5, h7, h8, h9⟩

/-- non-vacuity: `>`, LF, then `ab` (CR LF), `cd` (LF), `e` (lone CR) at indentation 1, then `x`: `ab cd e\n` -/
example :
    (match scanBlockScalarBody false ⟨0, 1, 0⟩
        { mkSc .str 0 ['\n',' ','a','b','\r','\n',' ','c','d','\n',' ','e','\r','x'] with mark := ⟨1, 1, 1⟩ } with
     | .ok (tok, u') => decide (tok.ty = .scalar .folded ['a','b',' ','c','d',' ','e','\n']) && tok.span.start.line == 2 &&
         tok.span.stop.line == 5 && decide (u'.inp.iter = ['x'])
     | _ => false) = true := by decide +kernel

end SaphyrModel.C05
