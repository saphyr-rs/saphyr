import SaphyrModel.Proofs.TermRun
import SaphyrModel.Proofs.History
import SaphyrModel.Proofs.PushSingle
/-! # C17 — Pull, peek and push interfaces tell the same story (Api model)

Laws of `peek` / `next_event` on the model of the parser's driver (`SaphyrModel/Api.lean`), for
every parser state; histories are cut at the first call that returns an error (DESIGN §7 C17). The push
interface (`Parser::load`, multi- and single-document mode) against plain iteration, for every token list. -/
namespace SaphyrModel.C17

/-- `peek` followed by `next` is `next`: the event `peek` shows is the one the following `next`
    returns, and the parser ends up in the same state as if `peek` had not been called. -/
theorem peek_then_next (a : Api) (hc : a.current = none) (he : a.endEmitted = false) :
    match a.peek with
    | (some (.ok v), a1) => a1.next.1 = some (.ok v) ∧ a.next.1 = some (.ok v) ∧ a1.next.2 = a.next.2
    | (some (.err e), a1) => a.next.1 = some (.err e) ∧ a1 = a
    | (some (.panic x), a1) => a.next.1 = some (.panic x) ∧ a1 = a
    | (none, _) => False := by
  simp only [Api.peek, hc, he, Bool.false_eq_true, ↓reduceIte, nextImpl_eq hc, next_eq hc he]
  cases hp : parseStep a.p with
  | err e => simp
  | panic x => simp
  | ok o => obtain ⟨ev, sp, p'⟩ := o; simp [Api.next, nextImpl]

/-- `peek` consumes nothing: a second `peek` returns the same event and leaves the state alone -/
theorem peek_idempotent (a : Api) (v : Ev) (a1 : Api) (h : a.peek = (some (.ok v), a1)) :
    a1.peek = (some (.ok v), a1) := by
  -- a successful `peek` leaves its event cached
  have hc : a1.current = some v := by
    unfold Api.peek at h
    split at h
    · cases h; assumption
    · split at h
      · cases h
      · split at h <;> cases h
        rfl
  simp [Api.peek, hc]

/-- after `StreamEnd` has been returned by `next`, both `next` and `peek` return nothing, forever -/
theorem fused (a : Api) (hc : a.current = none) (he : a.endEmitted = true) :
    a.next = (none, a) ∧ a.peek = (none, a) := by
  simp [Api.next, Api.peek, he, hc]

/-- `next` sets the end flag exactly when it returns `StreamEnd` -/
theorem next_sets_end_flag (a : Api) (v : Ev) (a' : Api) (h : a.next = (some (.ok v), a')) :
    a'.endEmitted = (v.1 == .streamEnd) ∧ a'.current = none := by
  unfold Api.next at h
  split at h
  · cases h
  · split at h <;> cases h
    rename_i hn
    exact ⟨rfl, (nextImpl_current hn).1⟩

/-- **Every interleaving of `peek` and `next` tells the story of plain iteration**: for every driver
    state in which the cached event and the end flag exclude each other (`Api.Ok`: a fresh parser and every state
    `peek`/`next` lead to — `fresh_ok`, `ok_preserved`), every history `h` of calls, cut at the first
    error, returns through its `next` calls a prefix of the events of plain iteration. The bound
    `h.length ≤ fuel` only says that iteration is given at least as many steps as the history has. -/
theorem history_is_iteration (h : List Call) (a : Api) (ha : a.Ok) (fuel : Nat) (hf : h.length ≤ fuel) :
    nextOks (runCalls h a []) <+: (iterate fuel a []).1 :=
  nexts_prefix_of_iteration h a ha fuel hf

/-- a fresh parser satisfies the hypothesis, and so does every state reached by `peek`/`next` -/
theorem fresh_ok (p : PState) : (Api.init p).Ok := by intro h; rfl
theorem ok_preserved (a : Api) (ha : a.Ok) : (a.peek).2.Ok ∧ (a.next).2.Ok := ⟨Api.peek_ok ha, Api.next_ok ha⟩

/-- `peek` returns what the following `next` returns and consumes nothing (general form: whatever
    is cached) -/
theorem peek_shows_next (a : Api) (ha : a.Ok) (v : Ev) (a1 : Api) (h : a.peek = (some (.ok v), a1)) :
    a1.next = a.next ∧ (a.next).1 = some (.ok v) := Api.next_after_peek ha h

/-- once `next` has returned `StreamEnd`, `next` and `peek` return nothing -/
theorem after_stream_end (a : Api) (v : Ev) (a' : Api) (h : a.next = (some (.ok v), a')) (hv : v.1 = .streamEnd) :
    a'.next = (none, a') ∧ a'.peek = (none, a') := by
  obtain ⟨he, hc⟩ := next_sets_end_flag a v a' h
  exact fused a' hc (by rw [he, hv]; rfl)

/-- **Push = pull.** For every token list, latched scanner error and `keep_tags` setting, `Parser::load`
    with `multi = true` on a fresh parser, given `16·|tokens| + 2` loop iterations, never panics and
    * when it returns `Ok`, the receiver got exactly the events of plain iteration, in order, ending with
      StreamEnd (iteration then returns `None`);
    * when it returns an error, plain iteration returns the same error after some prefix of events.
    The anchor table that `load` clears before each document is already empty there, the
    `unreachable!` arms and the `assert_eq!(DocumentEnd)` of the push loops cannot be reached, and the
    loops terminate (each pull decreases the potential of `Proofs/Term.lean`). -/
theorem push_eq_pull (toks : List Token) (scanErr : Option ScanError) (eof : Marker) (keep : Bool)
    (n : Nat) (hn : 16 * toks.length + 2 ≤ n) :
    let a0 := Api.init (PState.init toks scanErr eof keep)
    match load true n ⟨a0, []⟩ with
    | .ok s => ∀ m, iterate (s.out.length + 1 + m) a0 [] = (s.out.reverse, none)
    | .err e => ∃ evs, ∀ m, iterate (evs.length + 1 + m) a0 [] = (evs, some (.err e))
    | .panic _ => False := by
  intro a0
  exact iterate_of_fwd rfl (by show phi (PState.init toks scanErr eof keep) < _; rw [phi_init]; omega)
    (load_spec n (PState.init toks scanErr eof keep) rfl rfl rfl)

/-- **Single-document mode = pull.** For every token list, latched scanner error and `keep_tags`
    setting: a consumer that calls `Parser::load(recv, multi = false)` on a fresh parser again and
    again until a call delivers StreamEnd or fails (given `16·|tokens| + 2` calls and as many loop
    iterations per call) never reaches a panic site and
    * when it stops normally, the receiver got, over all calls together, exactly the events of plain
      iteration, in order, ending with StreamEnd;
    * when a call fails, plain iteration returns the same error after some prefix of events. -/
theorem single_docs_eq_pull (toks : List Token) (scanErr : Option ScanError) (eof : Marker) (keep : Bool)
    (c n : Nat) (hc : 16 * toks.length + 2 ≤ c) (hn : 16 * toks.length + 2 ≤ n) :
    let a0 := Api.init (PState.init toks scanErr eof keep)
    match loadRepeat c n ⟨a0, []⟩ with
    | .ok s => ∀ m, iterate (s.out.length + 1 + m) a0 [] = (s.out.reverse, none)
    | .err e => ∃ evs, ∀ m, iterate (evs.length + 1 + m) a0 [] = (evs, some (.err e))
    | .panic _ => False := by
  intro a0
  obtain ⟨c', rfl⟩ : ∃ c', c = c' + 1 := ⟨c - 1, by omega⟩
  exact iterate_of_fwd rfl (by show phi (PState.init toks scanErr eof keep) < _; rw [phi_init]; omega)
    (repeat_fresh_spec c' n (PState.init toks scanErr eof keep) rfl rfl rfl)

/-- **The calls together deliver the same stream as multi-document mode.** When both ways of using
    the push interface end normally the receiver holds the same events; neither reaches a panic
    site (`push_eq_pull`, `single_docs_eq_pull`). -/
theorem single_docs_eq_multi (toks : List Token) (scanErr : Option ScanError) (eof : Marker) (keep : Bool)
    (c n : Nat) (hc : 16 * toks.length + 2 ≤ c) (hn : 16 * toks.length + 2 ≤ n) (s1 s2 : Push)
    (h1 : loadRepeat c n ⟨Api.init (PState.init toks scanErr eof keep), []⟩ = .ok s1)
    (h2 : load true n ⟨Api.init (PState.init toks scanErr eof keep), []⟩ = .ok s2) : s1.out = s2.out := by
  have a := single_docs_eq_pull toks scanErr eof keep c n hc hn
  have b := push_eq_pull toks scanErr eof keep n hn
  simp only [h1] at a
  simp only [h2] at b
  have ha := a (s2.out.length)
  have hb := b (s1.out.length)
  rw [show s1.out.length + 1 + s2.out.length = s2.out.length + 1 + s1.out.length by omega, hb] at ha
  have := congrArg Prod.fst ha
  simpa using this.symm

/-- **One document per call.** Between documents, a call of the document loop in single-document mode
    forwards either StreamEnd alone, or a run of events that starts with DocumentStart, ends with
    DocumentEnd and leaves the parser between documents again (ready for the next call) — or it
    returns the error the next pull returns. -/
theorem one_document_per_call (n : Nat) (s : Push) (h : PInv s.api ⟨1, []⟩) :
    Doc1Spec n s (loadLoop false n s) := doc1_spec n s h

/-- the hypothesis `h.length ≤ fuel` of `history_is_iteration` for a history that interleaves both calls and
    `fuel = 5` — a length bound and nothing else; the other hypothesis, `a.Ok`, is `fresh_ok` -/
example : ([Call.peek, .next, .peek, .peek, .next] : List Call).length ≤ 5 := by decide

end SaphyrModel.C17
