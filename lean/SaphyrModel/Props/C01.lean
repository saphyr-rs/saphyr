import SaphyrModel.Sc.KS
import SaphyrModel.Props.C17
import SaphyrModel.Props.C02
-- C07, C11, C18 are not used below: the audit of C01 imports this module alone, and `lib/registry.json` lists
-- `C07.fold_tree`, `C11.push_loop_balanced`, `C18.decode_loop_terminates` under C01
import SaphyrModel.Props.C07
import SaphyrModel.Props.C11
import SaphyrModel.Props.C18
/-! # C01 — Parsing always terminates: no panic, abort or hang (component theorems)

`C01_scanner_full` is the scanner part of the property at full strength; it is **not proved**.
What is proved is `scanner_no_structural_panic`: for every input, back-end and capacity the
scanner never reaches one of its six structural panic sites (the per-function lemmas below are the
ingredients: each structural function preserves the invariant `InvS`; `Sc/Assemble.lean` carries
the invariant through every `fetch_*` function, `fetch_more_tokens`, `next_token` and the run).
`scanner_str_no_panic` adds, for the string back-end, that no input-level site is reachable either:
on a `StrInput` the model can only stop at `fuel`. Open: the look-ahead discipline of the
buffered input (its ring-buffer sites), and fuel sufficiency. The parser part is proved for every token list
(`parser_no_panic`, `parser_terminates`; the push interface: `push_terminates`). Registered under C01 from other
files: the loader on every well-nested event run (`C07.fold_tree`: the outcome is `place …`, which is no panic
site from a state between documents), the node loop of the push interface (`C11.push_loop_balanced`), the decode
loop (`C18.decode_loop_terminates`). -/
namespace SaphyrModel.C01
open SaphyrModel.Sc

/-- the scanner part of C01, full strength: for every input kind, capacity ≥ 8 and text, scanning
    with fuel linear in the input never hits a panic site and never runs out of fuel -/
def C01_scanner_full : Prop :=
  ∀ (k : InKind) (cap : Nat) (text : Str), 8 ≤ cap →
    ∀ p, (scanAll (4 * text.length + 32) (mkSc k cap text) []).2.1 ≠ .panic p

/-- the parser (iterator) never reaches a panic site, for every token list and every fuel: the only `.panic` the
    model returns is `iterate` running out of the fuel it was given -/
theorem parser_no_panic : C02.C02_grammar_full := C02.C02_grammar

/-- structural panic sites of the scanner (`indents.pop().unwrap()`, `simple_keys.last().unwrap()`,
    `insert_token`'s assert, the `usize` subtraction of token numbers) are unreachable under the
    invariant `InvS`, which these functions preserve (`PresS m` = from a state satisfying `InvS`,
    `m` ends in a state satisfying `InvS`, an error value, or a non-structural panic) -/
theorem unroll_indent_safe (col : Int) (h : -1 ≤ col) : PresS (unrollIndent col) := unrollIndent_pres col h
theorem roll_indent_safe (col : Nat) (tok : TokenType) (mark : Marker) : PresS (rollIndent col none tok mark) :=
  rollIndent_none_pres col tok mark
theorem save_simple_key_safe : PresS saveSimpleKey := saveSimpleKey_pres
theorem remove_simple_key_safe : PresS removeSimpleKey := removeSimpleKey_pres
theorem stale_simple_keys_safe : PresS staleSimpleKeys := staleSimpleKeys_pres
theorem increase_flow_level_safe : PresS increaseFlowLevel := increaseFlowLevel_pres
theorem decrease_flow_level_safe : PresS decreaseFlowLevel := decreaseFlowLevel_pres
theorem value_after_simple_key_safe (sk : SimpleKey) (hp : sk.possible = true) (m : Marker) (imp : Bool) :
    Tr (HeadKey sk) (valueAfterSimpleKey sk m imp) (fun _ => InvS) := valueAfterSimpleKey_pres sk hp m imp
theorem value_after_complex_key_safe (m : Marker) (imp : Bool) : PresS (valueAfterComplexKey m imp) :=
  valueAfterComplexKey_pres m imp

/-- **No structural panic, for every input.** Whatever the text, the back-end, its capacity and the
    number of tokens pulled, the scanner model never reaches `indents.pop().unwrap()`,
    `indents.last().unwrap()`, `simple_keys.last().unwrap()`, `simple_keys.pop().unwrap()`, the
    `assert!(pos <= old_len)` of `insert_token`, or a negative `token_number - tokens_parsed`. -/
theorem scanner_no_structural_panic (k : InKind) (cap : Nat) (text : Str) (fuel : Nat) (p : Site)
    (h : (scanAll fuel (mkSc k cap text) []).2.1 = .panic p) : ¬ StructSite p :=
  scanAll_no_struct_panic fuel _ [] (mkSc_between k cap text) p h

/-- **String input: no panic site at all, for every text.** When the scanner reads from a string slice
    (`StrInput`, the back-end behind `Parser::new_from_str` and every `load_from_str`) the only way the
    model run can stop abnormally is by exhausting the fuel it was given: none of the `unwrap`,
    `assert!`, index and subtraction sites of the scanner or of `StrInput` (its
    `next_can_be_plain_scalar` on an empty string, its `skip_ws_to_eol` assertion) is reachable. -/
theorem scanner_str_no_panic (cap : Nat) (text : Str) (fuel : Nat) (p : Site)
    (h : (scanAll fuel (mkSc .str cap text) []).2.1 = .panic p) : p = .fuel :=
  scanAll_str_only_fuel cap text fuel p h

/-- **The pull parser terminates, with a bound linear in the number of tokens.** For every token list
    (hence every input and back-end), latched scanner error and `keep_tags` setting: plain iteration
    given `16·|tokens| + 3` steps ends in `None` (after StreamEnd) or in an error value. It never
    stops at a panic site and never exhausts its steps: every step of the 22-state machine strictly
    decreases the potential `16·|remaining tokens| + rank(state, next token) + Σ rank(waiting states)`
    (`Proofs/Term.lean`). -/
theorem parser_terminates (toks : List Token) (scanErr : Option ScanError) (eof : Marker) (keep : Bool)
    (fuel : Nat) (hf : 16 * toks.length + 3 ≤ fuel) :
    ∀ x, (iterate fuel (Api.init (PState.init toks scanErr eof keep)) []).2 ≠ some (.panic x) := by
  apply iterate_terminates fuel _ _ (IterInv.init toks scanErr eof keep)
  simp only [need, Api.init, Bool.false_eq_true, ↓reduceIte, phi_init]; omega

/-- **The push interface terminates and reaches no panic site**, for every token list: `Parser::load`
    (multi-document) given `16·|tokens| + 2` loop iterations returns `Ok` or an error value — its
    `unreachable!` arms and its `assert_eq!` are never reached (corollary of `C17.push_eq_pull`). -/
theorem push_terminates (toks : List Token) (scanErr : Option ScanError) (eof : Marker) (keep : Bool)
    (n : Nat) (hn : 16 * toks.length + 2 ≤ n) (x : PanicSite) :
    load true n ⟨Api.init (PState.init toks scanErr eof keep), []⟩ ≠ .panic x := by
  intro h
  have := C17.push_eq_pull toks scanErr eof keep n hn
  simp only [h] at this

/-- one step of the state machine, any state: the potential strictly decreases -/
theorem parser_step_decreases (p : PState) (hne : p.state ≠ .end) (e : Event) (sp : Span) (p' : PState)
    (h : parseStep p = .ok (e, sp, p')) : phi p' < phi p := by
  have := parseStep_below p hne; rw [h] at this; exact this

/-- **String input, whole pull pipeline.** For every text, `keep_tags` setting and capacity, the
    pipeline `characters → StrInput → scanner → parser iterator` reaches no panic site of the scanner,
    of `StrInput` or of the parser, and the parser part always finishes within its steps: the only
    abnormal stop the model can exhibit is the scanner run exhausting its fuel. -/
theorem pipeline_str_no_panic (cap : Nat) (keep : Bool) (text : Str) :
    (Pipeline.events .str cap keep text = none → (Pipeline.scanText .str cap text).2.1 = .panic .fuel) ∧
    (∀ r, Pipeline.events .str cap keep text = some r → ∀ x, r.2 ≠ some (.panic x)) := by
  constructor
  · intro h
    obtain ⟨p, hp⟩ := Pipeline.events_none h
    obtain rfl := scanner_str_no_panic cap text _ p hp
    exact hp
  · intro r h
    obtain ⟨toks, scanErr, eof, rfl⟩ := Pipeline.events_some h
    exact parser_terminates _ _ _ _ _ (Nat.le_refl _)

/-- the statement is not vacuous: the six sites its docstring names are structural sites -/
example : StructSite .indentsPopUnwrap ∧ StructSite .insertTokenAssert ∧ StructSite .tokenNumberUnderflow ∧
    StructSite .simpleKeysLastUnwrap ∧ StructSite .simpleKeysPopUnwrap ∧ StructSite .indentsLastUnwrap := by
  simp [StructSite]

/-- the initial scanner state `mkSc` (before `fetch_stream_start`) satisfies the indentation clause `WFInd`
    of the structural invariant -/
example : WFInd (mkSc .str 128 []).indent (mkSc .str 128 []).indents := by simp [mkSc, WFInd]

end SaphyrModel.C01
