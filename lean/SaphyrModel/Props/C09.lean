import SaphyrModel.Proofs.DqDecode
import SaphyrModel.Proofs.IntParse
/-! # C09 — Emit then load (scalar layer)

Component theorems about the emitter's decisions, and the scanner half of the round trip for quoted
strings: the double-quoted scanner reads back exactly the string `escape_str` wrote, for every
string. The structural round trip `load (emit t) = [t]` for nested collections is not proved; the
check evaluates it on the implementation for every explored tree. -/
namespace SaphyrModel.C09
open ProtoE ProtoR

theorem map_int_ne_string {o : Option Int} {r : Scalar} {t : Str} (h : o.map Scalar.int = some r)
    (hr : r = .string t) : False := by
  cases o with
  | none => simp at h
  | some i => simp at h; subst h; cases hr

theorem map_int_is_int {o : Option Int} {r : Scalar} (h : o.map Scalar.int = some r) : ∃ i, r = .int i := by
  cases o with
  | none => simp at h
  | some i => simp at h; exact ⟨i, h.symm⟩

/-- the resolver's string result is always its argument -/
theorem parseFromCow_string (v t : Str) (h : parseFromCow v = .string t) : t = v :=
  IntParse.parseFromCow_cases v h

/-- A string that the emitter writes without quotes is one the resolver reads back as the very same
    string: never as null, a boolean or a number. (For every string.) -/
theorem unquoted_string_reloads_as_string (s : Str) (h : needQuotes s = false) :
    parseFromCow s = .string s := by
  unfold needQuotes at h
  simp only [Bool.or_eq_false_iff] at h
  have hlast := h.2
  cases hp : parseFromCow s with
  | string t =>
    rw [parseFromCow_string s t hp]
  | null => simp [hp] at hlast
  | bool b => simp [hp] at hlast
  | int i => simp [hp] at hlast
  | float f => simp [hp] at hlast

/-- The emitter never writes the empty string, nor a string with a leading or trailing space,
    unquoted. -/
theorem blank_edges_are_quoted (s : Str) (h : s = [] ∨ s.head? = some ' ' ∨ s.getLast? = some ' ') :
    needQuotes s = true := by
  unfold needQuotes
  -- the first three of the tests; what the others say of `s` is not looked at
  rcases h with h | h | h <;> simp only [h, List.isEmpty_nil, beq_self_eq_true, Bool.or_true, Bool.true_or]

/-- Floats are written so that they cannot be read back as integers: the text of a finite float
    always contains a '.', 'e' or 'E'; the non-finite ones use the YAML spellings. -/
theorem float_text_is_not_integer_like (cls : FloatClass) (disp : Str) :
    (floatText cls disp).any (fun c => c == '.' || c == 'e' || c == 'E') = true ∨
    (cls = .nan ∨ cls = .posInf ∨ cls = .negInf) := by
  cases cls with
  | finite =>
    left
    unfold floatText
    simp only
    split
    · assumption
    · simp
  | posInf => right; simp
  | negInf => right; simp
  | nan => right; simp

/-- **A quoted string is read back as itself.** For every string `t` (any characters: quotes,
    backslashes, control characters, line breaks, runs of spaces, non-ASCII), in every scanner state
    on a string input whose cursor stands in front of `escape_str t` followed by anything, with the
    quote at or beyond the current indent: `scan_flow_scalar` cannot panic, and whenever it returns a
    token that token is a double-quoted scalar whose value is exactly `t` and which starts at the
    opening quote. (An error is possible only from what follows the closing quote: the trailing-content
    check or a comment without a separating space; see `SaphyrModel.Sc.scanFlowScalar_escaped`,
    which reduces the scan to that check with `t` already decoded.) -/
theorem quoted_string_rescans (s : SaphyrModel.Sc.Sc) (hk : s.inp.kind = .str) (t rest : Str)
    (hiter : s.inp.iter = escapeStr t ++ rest)
    (hind : s.indent ≤ (s.mark.col + 1 : Nat)) :
    match SaphyrModel.Sc.scanFlowScalar false s with
    | .ok (tok, _) => tok.ty = .scalar .doubleQuoted t ∧ tok.span.start = s.mark
    | .err _ => True
    | .panic _ => False :=
  SaphyrModel.Sc.scanFlowScalar_escaped_value s hk t rest
    (by rw [hiter]; simp [escapeStr]) hind

/-- the statement is about a non-trivial function: what `escape_str` writes for a string with a
    quote, a backslash, a line break, a control character and a double space -/
example : escapeStr "a\"b\\ \n\x01  c".toList = "\"a\\\"b\\\\ \\n\\u0001  c\"".toList := by decide +kernel

example : needQuotes "0o17".toList = true := by decide +kernel
example : needQuotes "+.inf".toList = true := by decide +kernel
example : needQuotes "plain text".toList = false := by decide +kernel

end SaphyrModel.C09
