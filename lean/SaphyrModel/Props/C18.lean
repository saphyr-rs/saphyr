import SaphyrModel.Encoding
/-! # C18 — Byte input: encoding detection, and the decode loop always ends

`decodeLoop` is the model of `decode_loop` over an abstract decoder step with the contract
`Decoder.Contract` (the `encoding_rs` decoder itself is external). -/
namespace SaphyrModel.C18
open SaphyrModel.Encoding

/-- a text that starts with a non-NUL ASCII character `c`, encoded as UTF-16LE without BOM, is
    detected as UTF-16LE … -/
theorem detect_utf16le (c : Nat) (rest : List Nat) (h0 : 0 < c) (h1 : c < 128) :
    detect (c :: 0 :: rest) = .utf16le := by
  unfold detect forBom detectUtf16
  have : c ≠ 0 := by omega
  split <;> first | omega | (simp_all; try omega)
/-- … as UTF-16BE … -/
theorem detect_utf16be (c : Nat) (rest : List Nat) (h0 : 0 < c) (h1 : c < 128) :
    detect (0 :: c :: rest) = .utf16be := by
  unfold detect forBom detectUtf16
  have : c ≠ 0 := by omega
  simp_all
  omega
/-- … and its UTF-8 form (second byte not NUL: the text's second character is not NUL) as UTF-8 -/
theorem detect_utf8 (c d : Nat) (rest : List Nat) (h0 : 0 < c) (h1 : c < 128) (hd : 0 < d) :
    detect (c :: d :: rest) = .utf8 := by
  unfold detect forBom detectUtf16
  have : c ≠ 0 := by omega
  have : d ≠ 0 := by omega
  split <;> first | omega | (simp_all; try split <;> simp_all)
/-- a byte-order mark decides the encoding whatever follows -/
theorem bom_decides (rest : List Nat) :
    detect (0xEF :: 0xBB :: 0xBF :: rest) = .utf8 ∧ detect (0xFF :: 0xFE :: rest) = .utf16le ∧
    detect (0xFE :: 0xFF :: rest) = .utf16be := by
  simp [detect, forBom]

/-- the case the sniffing rule gets wrong (recorded finding): a NUL as second character of a UTF-8
    text is taken for UTF-16LE -/
example : detect [0x61, 0x00, 0x3A] = .utf16le := by decide

/-- potential of the loop: unread input (each byte counted twice) plus the shortfall of free
    output capacity below 4 -/
def potential (n : Nat) (s : LoopState) : Nat := 2 * (n - s.read) + (if s.cap - s.len < 4 then 1 else 0)

theorem reserve_free (s : LoopState) (g : Nat) : g ≤ (reserve s g).cap - (reserve s g).len :=
  Nat.le_sub_of_add_le' (Nat.le_max_right _ _)

/-- a state that has read `e` bytes more has a lower potential: lower by 2 of which the shortfall term can take
    back 1 when `e > 0`, and otherwise when the shortfall term goes from 1 to 0 -/
theorem potential_lt (n : Nat) (s s' : LoopState) (e : Nat) (hr : s'.read = s.read + e) (he : e ≤ n - s.read)
    (h : 0 < e ∨ s.cap - s.len < 4 ∧ 4 ≤ s'.cap - s'.len) : potential n s' < potential n s := by
  unfold potential
  rw [hr, Nat.sub_add_eq]
  rcases h with h | ⟨h4, h4'⟩
  · split <;> omega
  · rw [if_pos h4, if_neg (Nat.not_lt.2 h4')]
    omega

/-- **The decode loop always ends**: for every decoder that honours the contract, every input
    length, trap mode and starting state, `2·n + 2` iterations suffice — it never runs out of fuel. -/
theorem decode_loop_terminates (d : Decoder) (hd : d.Contract) (n : Nat) (strict : Bool) (repl : Nat)
    (fuel : Nat) (s : LoopState) (hs : s.read ≤ n) (hf : potential n s < fuel) :
    ∀ s', decodeLoop d n strict repl fuel s ≠ .outOfFuel s' := by
  -- not needed: a state that has read beyond the input is given 0 bytes to read, like one at its end
  clear hs
  induction fuel generalizing s with
  | zero => omega
  | succ k ih =>
    intro s'
    unfold decodeLoop
    simp only
    have hr := hd.read_le (n - s.read) (s.cap - s.len)
    cases hres : (d.step (n - s.read) (s.cap - s.len)).1 with
    | inputEmpty => simp
    | outputFull =>
      refine ih _ (Nat.lt_of_lt_of_le (potential_lt n s _ _ rfl hr ?_) (Nat.le_of_lt_succ hf)) _
      -- with 4 bytes free the decoder has consumed input; with fewer, the 4 or more reserved make up the shortfall
      by_cases h4 : s.cap - s.len < 4
      · exact .inr ⟨h4, Nat.le_trans (Nat.le_max_right _ _) (reserve_free _ _)⟩
      · exact .inl (hd.full_progress _ _ (Nat.le_of_not_lt h4) hres)
    | malformed =>
      cases strict with
      | true => simp
      | false =>
        exact ih _ (Nat.lt_of_lt_of_le (potential_lt n s _ _ rfl hr (.inl (hd.malformed_progress _ _ hres)))
          (Nat.le_of_lt_succ hf)) _

/-- non-vacuity: a decoder that copies min(remaining, free) bytes satisfies the contract when it
    reports `OutputFull` only if output space ran out -/
example : (Decoder.mk fun r f => (if r ≤ f then .inputEmpty else .outputFull, min r f, min r f)).Contract :=
  ⟨by intro r f; simp; omega, by intro r f; simp; omega, by intro r f h; simp at h; split at h <;> simp at h,
   by intro r f h4 h; simp at h ⊢; omega⟩

end SaphyrModel.C18
