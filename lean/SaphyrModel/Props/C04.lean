import SaphyrModel.Proofs.SingleQuoted
import SaphyrModel.Proofs.PlainLine
/-! # C04 — Plain and quoted scalar text (function-level theorems)

The escape table of the double-quoted scanner against the table of YAML 1.2.2 §5.7, for every
character; the value `as_hex` gives a single hexadecimal digit (`asHex_digits`; that `hexLoop` folds the digits of a
`\x`/`\u`/`\U` escape into `hexValue` is `hexLoop_value` of `Proofs/DqDecode.lean`, string input). On a string input,
**single-quoted scalars on one line** (`single_quoted_scalar_token`) and **plain scalars on one line** in block
context (`plain_scalar_line_token`) are covered for every value. Double-quoted scalars as the emitter writes
them: `C09.quoted_string_rescans`. The folding rules of flow scalars (multi-line) are not covered by theorems
here: for them the check relies on correspondence + the presentation oracle. -/
namespace SaphyrModel.C04
open SaphyrModel.Sc

/-- YAML 1.2.2 §5.7 escape sequences `\c ↦ code point` (independent table, as (escape, code) pairs) -/
def specEscapes : List (Char × Nat) :=
  [('0', 0x00), ('a', 0x07), ('b', 0x08), ('t', 0x09), ('\t', 0x09), ('n', 0x0A), ('v', 0x0B), ('f', 0x0C),
   ('r', 0x0D), ('e', 0x1B), (' ', 0x20), ('"', 0x22), ('/', 0x2F), ('\\', 0x5C), ('N', 0x85), ('_', 0xA0),
   ('L', 0x2028), ('P', 0x2029)]

def specEscape (e : Char) : Option Char := (specEscapes.find? (·.1 == e)).map (fun p => Char.ofNat p.2)

/-- Every named escape decodes to the code point YAML assigns to it (all 18 rows). -/
theorem named_escapes_correct : ∀ p ∈ specEscapes, namedEscape p.1 = some (Char.ofNat p.2) := by
  decide

/-- … and nothing else is a named escape: for **every** character the scanner's table and the
    specification's agree. -/
theorem named_escape_table (e : Char) : namedEscape e = specEscape e := by
  unfold namedEscape
  split <;> first | rfl | skip
  -- the default arm: `e` is none of the 18 escape letters
  rename_i h0 h1 h2 h3 h4 h5 h6 h7 h8 h9 h10 h11 h12 h13 h14 h15 h16 h17
  unfold specEscape specEscapes
  simp only [List.find?]
  have ne : ∀ c : Char, (e = c → False) → (c == e) = false := by
    intro c h; simp; intro hc; exact h hc.symm
  simp [ne _ h0, ne _ h1, ne _ h2, ne _ h3, ne _ h4, ne _ h5, ne _ h6, ne _ h7, ne _ h8, ne _ h9, ne _ h10,
    ne _ h11, ne _ h12, ne _ h13, ne _ h14, ne _ h15, ne _ h16, ne _ h17]

/-- value of a hexadecimal digit string, most significant first (specification) -/
def hexValue (ds : List Char) : Nat := ds.foldl (fun v c => v * 16 + asHex c) 0

/-- `as_hex` gives each hexadecimal digit its value -/
theorem asHex_digits :
    ("0123456789".toList.map asHex = List.range 10) ∧
    ("abcdef".toList.map asHex = [10, 11, 12, 13, 14, 15]) ∧
    ("ABCDEF".toList.map asHex = [10, 11, 12, 13, 14, 15]) := by decide

open SaphyrModel.C04S in
/-- **Single-quoted scalars: `''` is one quote, blanks are kept, everything else is passed through — for every
    one-line value.** The scanner (string input) stands at the opening quote of a single-quoted scalar whose
    content is an arbitrary value `v` without line breaks or NUL — any characters, including indicator characters,
    `"`, `\`, `#`, tabs and spaces anywhere, non-ASCII text — written with each of its quotes doubled, followed by
    the closing quote and the end of the line (or of the input). Provided the scalar is not less indented than
    its parent, the scanner either stops at a panic site (the first disjunct, `∃ p, … = .panic p`: any site, a loop
    running out of its fuel among them) or returns a single-quoted scalar token whose text is exactly `v`, whose
    span starts at the opening quote and ends right after the closing quote, `2` characters plus the written
    length of `v` further on the same line. -/
theorem single_quoted_scalar_token (v rest : Str) (hv : ∀ c ∈ v, isBreak c = false ∧ isZ c = false)
    (hz : isBreakz (rest.headD '\x00') = true) (u : Sc) (hk : u.inp.kind = .str)
    (hI : u.indent ≤ (u.mark.col : Int) + 1)
    (hi : u.inp.iter = '\'' :: (sqEnc v ++ '\'' :: rest)) :
    (∃ p, scanFlowScalar true u = .panic p) ∨
    ∃ tok u', scanFlowScalar true u = .ok (tok, u') ∧
      tok.ty = .scalar .singleQuoted v ∧ tok.span.start = u.mark ∧ tok.span.stop = u'.mark ∧
      u'.inp.iter = rest ∧ u'.mark.line = u.mark.line ∧ u'.mark.col = u.mark.col + 1 + (sqEnc v).length + 1 ∧
      u'.mark.index = u.mark.index + 1 + (sqEnc v).length + 1 := by
  refine (single_quoted_token v rest hv hz u _ _ _ _ hI ⟨hk, hi, rfl, rfl, rfl, rfl⟩).mono
    fun tok u' ⟨h1, h2, h3, h4⟩ => ⟨h1, h2, h3, h4.iter, h4.line, h4.col, ?_⟩
  have := h4.off
  simp only [List.length_cons, List.length_append] at this
  omega

/-- the decoding read backwards: the written form of a value is the value with each quote doubled -/
example : C04S.sqEnc ['i','t','\'','s',' ',' ','"','a','"','\t',':'] = ['i','t','\'','\'','s',' ',' ','"','a','"','\t',':'] := by decide

/-- non-vacuity: `'it''s  "a"	:'` at column 3, parent indentation 2 -/
example :
    (match scanFlowScalar true
        { mkSc .str 0 ['\'','i','t','\'','\'','s',' ',' ','"','a','"','\t',':','\'','\n','x'] with indent := 2, mark := ⟨3, 1, 3⟩ } with
     | .ok (tok, u') => decide (tok.ty = .scalar .singleQuoted ['i','t','\'','s',' ',' ','"','a','"','\t',':']) &&
         tok.span.start.col == 3 && tok.span.stop.col == 17 && decide (u'.inp.iter = ['\n','x'])
     | _ => false) = true := by decide +kernel

open SaphyrModel.C04P in
/-- **Plain scalars on one line are passed through unchanged — for every such line.** Block context, the scalar
    in the value position (after `key: ` or `- `, not at the start of its line): the text is any sequence of
    words of ordinary characters — anything but blanks, breaks, NUL, `:` and `#`; so quotes, brackets, commas,
    `-`, `?`, `!`, `&`, `*`, `%`, `@`, backslashes and non-ASCII text are all passed through — separated by runs of
    blanks, not ending with a blank, not less indented than its parent allows; then the input ends, or a line
    feed follows and the next line starts in column 0 with something other than a blank or a break, or is empty
    (`Ending`). Whatever the chunk size (`bufmaxlen ≥ 2`) and however many chunks a word takes, the scanner either
    stops at a panic site (the first disjunct, `∃ p, … = .panic p`: any site, a loop running out of its fuel among
    them) or returns a plain scalar token with exactly that text (interior blanks kept), starting where the
    scanner stood and ending right after the last character of the text. -/
theorem plain_scalar_line_token (v rest : Str) (hv : PlainLine v) (u : Sc) (hk : u.inp.kind = .str)
    (hfl : u.flowLevel = 0) (hlw : u.leadingWhitespace = false) (hcap : 2 ≤ u.inp.cap)
    (hrest : Ending rest u.indent) (hC : u.indent + 1 ≤ (u.mark.col : Int))
    (hi : u.inp.iter = v ++ rest) :
    (∃ p, scanPlainScalarBody u = .panic p) ∨
    ∃ tok u', scanPlainScalarBody u = .ok (tok, u') ∧
      tok.ty = .scalar .plain v ∧ tok.span.start = u.mark ∧
      tok.span.stop.line = u.mark.line ∧ tok.span.stop.col = u.mark.col + v.length ∧
      tok.span.stop.index = u.mark.index + v.length ∧ u'.inp.iter = rest.drop 1 := by
  refine (plain_line_token u.inp.cap hcap v rest hv u _ _ _ _ hrest hC ⟨⟨hk, hi, rfl, rfl, rfl, rfl⟩, hfl, hlw, rfl⟩).mono
    fun tok u' ⟨h1, h2, h3, h4, h5, h6, _⟩ => ⟨h1, h2, h3, h4, ?_, h6⟩
  simp only [List.length_append] at h5
  omega

/-- non-vacuity: after `a: ` (column 3, parent indentation 0), `it's  "x,[` and a line feed, next line `b`;
    chunk size 4, so the words are read in several chunks -/
example :
    (match scanPlainScalarBody { mkSc .str 4 ['i','t','\'','s',' ',' ','"','x',',','[','\n','b'] with indent := 0, mark := ⟨3, 1, 3⟩, leadingWhitespace := false } with
     | .ok (tok, u') => decide (tok.ty = TokenType.scalar ScalarStyle.plain ['i','t','\'','s',' ',' ','"','x',',','[']) &&
         tok.span.start.col == 3 && tok.span.stop.col == 13 && decide (u'.inp.iter = ['b'])
     | _ => false) = true := by decide +kernel

end SaphyrModel.C04
