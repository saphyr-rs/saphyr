import SaphyrModel.Proofs.SpansRun
import SaphyrModel.Props.C17
import SaphyrModel.Proofs.Counting
import SaphyrModel.Proofs.BlockToken
import SaphyrModel.Props.C04
import SaphyrModel.Sc.TokOrd
/-! # C12 — Reported positions are true positions

`Spec.lineCol input idx` is the specification: count line breaks and characters up to `idx`; `Spec.markTrue`
compares a mark with it.

**Parser half, for every token list**: the parser invents no position (`event_spans_are_token_spans`; through the
push interface `push_spans_are_token_spans`). Hence: if the scanner's token marks are true positions, so are all
event marks and parser error marks (`event_marks_true`, `parser_error_mark_true`), and if token spans start no
later than they end, so do event spans (`event_spans_ordered`).

**Scanner half, the whole scanner** — every text, back-end and capacity: no call of `next_token`, from any state,
moves the index or the line of the mark back (`scanner_index_never_decreases`, `scanner_line_never_decreases`), and
every token delivered starts no later than it ends, in index and in line (`token_spans_ordered`,
`token_span_lines_ordered`). With the parser half this is the clause "each span starts no later than it ends" of
C12 for the whole pipeline of the model, pull and push (`event_spans_ordered_for_every_text`,
`event_span_lines_ordered_for_every_text`, `push_event_spans_ordered_for_every_text`).

**Scanner half, marks are true**: proved per token kind on a string input — the marks of literal and folded block
scalar tokens are true (`literal_block_token_marks_true`, `folded_block_token_marks_true`), the spans of one-line
single-quoted and plain scalars cover the text they should (`single_quoted_span_covers_quotes`,
`plain_scalar_span_covers_text`) — and per primitive: `advance 1` moves the mark exactly as the counting function
does over a non-break character (`skip_char_keeps_mark_true`). **Not proved**: that every mark of every token of
every text is true. The induction over the whole scanner for that (every call site applies the right primitive to
the right character class) is not done; for that the check rests on the `lineCol` oracle that the Lean driver
evaluates on every reported mark. -/
namespace SaphyrModel.C12
open SaphyrModel.Sc SaphyrModel.Spec

theorem advanceLC_snoc_char (s : Str) (c : Char) (lc : Nat × Nat) (h1 : c ≠ '\n') (h2 : c ≠ '\r') :
    advanceLC (s ++ [c]) lc = ((advanceLC s lc).1, (advanceLC s lc).2 + 1) := by
  rw [C12C.advanceLC_append [c] (by simpa using h1)]
  exact C12C.advanceLC_cons h1 h2 [] _ _

/-- counting over one more non-break character: same line, next column -/
theorem lineCol_succ_char (input : Str) (idx : Nat) (c : Char) (hc : input[idx]? = some c)
    (h1 : c ≠ '\n') (h2 : c ≠ '\r') :
    lineCol input (idx + 1) = ((lineCol input idx).1, (lineCol input idx).2 + 1) := by
  unfold lineCol
  have : input.take (idx + 1) = input.take idx ++ [c] := by
    rw [List.take_add_one, hc]; rfl
  rw [this]
  exact advanceLC_snoc_char _ c _ h1 h2

/-- `skip_blank` / `skip_non_blank` (both `advance 1`): index, column + 1 — so if the mark was the
    true position of a non-break character, it is the true position of the next one -/
theorem skip_char_keeps_mark_true (input : Str) (s : Sc) (c : Char) (hc : input[s.mark.index]? = some c)
    (h1 : c ≠ '\n') (h2 : c ≠ '\r') (ht : lineCol input s.mark.index = (s.mark.line, s.mark.col)) :
    match advance 1 s with
    | .ok (_, s') => s'.mark.index = s.mark.index + 1 ∧ lineCol input s'.mark.index = (s'.mark.line, s'.mark.col)
    | _ => False := by
  simp only [advance, modS]
  refine ⟨trivial, ?_⟩
  show lineCol input (s.mark.index + 1) = (s.mark.line, s.mark.col + 1)
  rw [lineCol_succ_char input _ c hc h1 h2, ht]

/-- **The parser invents no position (iterator).** For every token list, latched scanner error,
    end mark, `keep_tags` setting and fuel: every span delivered by plain iteration is the span of one
    of the tokens, or the empty span at the end of one of them; an error, if any, points at the start
    of one of the tokens or is the scanner's own latched error (or "unexpected eof" at its end mark). -/
theorem event_spans_are_token_spans (toks : List Token) (scanErr : Option ScanError) (eofm : Marker) (keep : Bool)
    (fuel : Nat) :
    let r := iterate fuel (Api.init (PState.init toks scanErr eofm keep)) []
    (∀ v ∈ r.1, Sp.SpanOf toks v.2) ∧ (∀ e, r.2 = some (.err e) → Sp.ErrOf toks scanErr eofm e) :=
  Sp.iterate_spans toks scanErr eofm keep fuel

/-- … and one step from any state that only knows tokens of `T` -/
theorem step_spans_are_token_spans {T : List Token} {se : Option ScanError} {eofm : Marker} {p : PState}
    (hinv : Sp.SInv T se eofm p) (hne : p.state ≠ .end) : Sp.StepOk T se eofm (parseStep p) :=
  Sp.parseStep_spans hinv hne

/-- **If the token marks are true positions, so are all event marks.** `ok m` is any predicate on
    marks (for C12: `Spec.markTrue text m`). -/
theorem event_marks_true (ok : Marker → Prop) (toks : List Token) (scanErr : Option ScanError) (eofm : Marker)
    (keep : Bool) (fuel : Nat) (htok : ∀ t ∈ toks, ok t.span.start ∧ ok t.span.stop) :
    ∀ v ∈ (iterate fuel (Api.init (PState.init toks scanErr eofm keep)) []).1, ok v.2.start ∧ ok v.2.stop :=
  fun v hv => ((event_spans_are_token_spans toks scanErr eofm keep fuel).1 v hv).elim
    (fun sp => ok sp.start ∧ ok sp.stop) htok fun t ht => ⟨(htok t ht).2, (htok t ht).2⟩

/-- … and a parser error is reported at a true position as well (the other error it can return is the
    scanner's own) -/
theorem parser_error_mark_true (ok : Marker → Prop) (toks : List Token) (scanErr : Option ScanError) (eofm : Marker)
    (keep : Bool) (fuel : Nat) (htok : ∀ t ∈ toks, ok t.span.start ∧ ok t.span.stop) (e : ScanError)
    (he : (iterate fuel (Api.init (PState.init toks scanErr eofm keep)) []).2 = some (.err e)) :
    ok e.mark ∨ e = scanErr.getD ⟨eofm, "unexpected eof"⟩ := by
  rcases (event_spans_are_token_spans toks scanErr eofm keep fuel).2 e he with ⟨t, ht, h⟩ | h
  · left; rw [h]; exact (htok t ht).1
  · right; exact h

/-- **Each span starts no later than it ends** — if that holds of the tokens -/
theorem event_spans_ordered (toks : List Token) (scanErr : Option ScanError) (eofm : Marker) (keep : Bool) (fuel : Nat)
    (htok : ∀ t ∈ toks, t.span.start.index ≤ t.span.stop.index) :
    ∀ v ∈ (iterate fuel (Api.init (PState.init toks scanErr eofm keep)) []).1, v.2.start.index ≤ v.2.stop.index :=
  fun v hv => ((event_spans_are_token_spans toks scanErr eofm keep fuel).1 v hv).elim
    (fun sp => sp.start.index ≤ sp.stop.index) htok fun _ _ => Nat.le_refl _

/-- the push interface delivers the same spans (C17.push_eq_pull), so it invents none either -/
theorem push_spans_are_token_spans (toks : List Token) (scanErr : Option ScanError) (eofm : Marker) (keep : Bool)
    (n : Nat) (hn : 16 * toks.length + 2 ≤ n) (s : Push)
    (h : load true n ⟨Api.init (PState.init toks scanErr eofm keep), []⟩ = .ok s) :
    ∀ v ∈ s.out, Sp.SpanOf toks v.2 := by
  intro v hv
  have hp := C17.push_eq_pull toks scanErr eofm keep n hn
  simp only [h] at hp
  have h0 := hp 0
  have hs := (event_spans_are_token_spans toks scanErr eofm keep (s.out.length + 1 + 0)).1 v
  rw [h0] at hs
  exact hs (by simpa using hv)

/-- non-vacuity: two tokens, both spans are read off them -/
example : Sp.SpanOf [⟨⟨⟨0, 1, 0⟩, ⟨0, 1, 0⟩⟩, .streamStart⟩, ⟨⟨⟨0, 1, 0⟩, ⟨1, 1, 1⟩⟩, .scalar .plain ['a']⟩] ⟨⟨0, 1, 0⟩, ⟨1, 1, 1⟩⟩ :=
  Or.inl ⟨⟨⟨⟨0, 1, 0⟩, ⟨1, 1, 1⟩⟩, .scalar .plain ['a']⟩, by simp, rfl⟩

example : lineCol "ab\ncd".toList 4 = (2, 1) := by decide
example : lineCol "ab\r\ncd".toList 5 = (2, 1) := by decide
example : lineCol "ab\rcd".toList 4 = (2, 1) := by decide

theorem hdr_nobreak (hd : C05T.Hdr) : ∀ c ∈ hd.txt, isBreak c = false := by
  cases hd <;> simp [C05T.Hdr.txt] <;> decide

open SaphyrModel.C14L SaphyrModel.C05 SaphyrModel.C05T SaphyrModel.C12C in
/-- **The marks of a block scalar token, literal or folded, are true positions**: what `block_token` says of line,
    column and index of the marks is what the counter gives over `pre`, the header line and the content lines -/
theorem block_token_marks_true (lit : Bool) (pre : Str) (hpre : ∀ p, pre ≠ p ++ ['\r'])
    (sm : Marker) (hd : Hdr) (b0 : Brk) (ind : Nat) (hind : ind ≠ 0) (tail : Str)
    (ht1 : tail.headD '\x00' ≠ ' ') (ht2 : isBreak (tail.headD '\x00') = false) (ls : List (Str × Brk)) (l : Str) (b : Brk)
    (hl : GoodLine l) (hl1 : l.headD '\x00' ≠ ' ') (hls : ∀ p ∈ ls, GoodLine p.1) (u : Sc)
    (hI : (u.indent + 1).toNat ≤ ind) (hk : u.inp.kind = .str)
    (hi : u.inp.iter = hd.txt ++ (b0.txt ++ (List.replicate ind ' ' ++ (l ++ (b.txt ++ restLinesB ind ls tail)))))
    (hidx : u.mark.index = pre.length) (hlc : advanceLC pre (1, 0) = (u.mark.line, u.mark.col))
    (tok : Token) (u' : Sc) (h : scanBlockScalarBody lit sm u = .ok (tok, u')) :
    markTrue (pre ++ u.inp.iter) tok.span.start = true ∧ markTrue (pre ++ u.inp.iter) tok.span.stop = true ∧
    markTrue (pre ++ u.inp.iter) u'.mark = true := by
  obtain ⟨⟨_, x2, x3, x4, x5, x6, x7⟩, _, _, y3, y4, y5⟩ := (block_token lit sm hd b0 ind hind tail ht1 ht2 ls l b hl hl1 hls u
    u.mark.line u.mark.col u.indent (pre ++ u.inp.iter).length hI ⟨hk, hi, rfl, rfl, rfl, by rw [hidx, hi]; exact List.length_append.symm⟩).of_ok h
  -- the counter over `pre` and the header line: column 0 of the next line, in front of `X`
  have hhead : ∀ X : Str, X.headD '\x00' ≠ '\n' →
      advanceLC (pre ++ (hd.txt ++ (b0.txt ++ X))) (1, 0) = advanceLC X (u.mark.line + 1, 0) := fun X hX => by
    rw [advanceLC_append_left _ _ _ hpre, hlc, advanceLC_eol _ _ _ _ _ (hdr_nobreak hd) hX]
  -- the token starts after the indentation of the first content line
  have hstart : markTrue (pre ++ u.inp.iter) tok.span.start = true := by
    refine markTrue_split (A := pre ++ (hd.txt ++ (b0.txt ++ List.replicate ind ' '))) (by rw [hi]; simp only [List.append_assoc]) x6 ?_
    rw [hhead _ (by cases ind <;> simp [List.replicate_succ]), advanceLC_nobreak _ _ _ (replicate_nobreak ind), x2, x3]
    simp
  -- the token ends, and the scanner stands, after the last content line
  have hstop : ∀ m : Marker, m.index + tail.length = (pre ++ u.inp.iter).length → m.line = u.mark.line + 1 + ls.length + 1 →
      m.col = 0 → markTrue (pre ++ u.inp.iter) m = true := fun m h1 h2 h3 => by
    refine markTrue_split (A := pre ++ (hd.txt ++ (b0.txt ++ restLinesB ind ((l, b) :: ls) [])))
      (by rw [hi, restLinesB_append]; simp only [restLinesB, List.append_assoc]) h1 ?_
    rw [hhead _ (restLinesB_head ind hind [] (by simp) _), advanceLC_lines ind hind [] (by simp) _ _ (List.forall_mem_cons.2 ⟨hl, hls⟩),
      h2, h3]
    rfl
  exact ⟨hstart, hstop _ x7 x4 x5, hstop _ y5 y3 y4⟩

open SaphyrModel.C14L SaphyrModel.C05 SaphyrModel.C05T in
/-- **The marks of a literal block scalar token are true positions — for every such scalar.** Let the whole
    input be `pre` (what the scanner has consumed, ending with the `|`; all that is assumed of it is that it does
    not end with a CR, which would pair up with a following LF) followed by what remains: a literal block scalar
    as in `C05.literal_block_scalar_token` (no chomping indicator or `-` or `+`, any list of content lines, any
    spelling of every break) and a continuation. If the scanner's own mark is the true position of the end of
    `pre` — its index is the number of characters consumed, its line and column are what counting line breaks and
    characters over `pre` gives — then the start mark and the end mark of the token the scanner returns, and the
    scanner's mark afterwards, are true positions too: each index lies within the input, and line and column are
    exactly those obtained by counting (`Spec.lineCol`) up to that index (`Spec.markTrue`: for a mark at the very
    end of the input only the index is compared). -/
theorem literal_block_token_marks_true (pre : Str) (hpre : ∀ p, pre ≠ p ++ ['\r'])
    (sm : Marker) (hd : Hdr) (b0 : Brk) (ind : Nat) (hind : ind ≠ 0) (tail : Str)
    (ht1 : tail.headD '\x00' ≠ ' ') (ht2 : isBreak (tail.headD '\x00') = false) (ls : List (Str × Brk)) (l : Str) (b : Brk)
    (hl : GoodLine l) (hl1 : l.headD '\x00' ≠ ' ') (hls : ∀ p ∈ ls, GoodLine p.1) (u : Sc)
    (hI : (u.indent + 1).toNat ≤ ind) (hk : u.inp.kind = .str)
    (hi : u.inp.iter = hd.txt ++ (b0.txt ++ (List.replicate ind ' ' ++ (l ++ (b.txt ++ restLinesB ind ls tail)))))
    (hidx : u.mark.index = pre.length) (hlc : advanceLC pre (1, 0) = (u.mark.line, u.mark.col))
    (tok : Token) (u' : Sc) (h : scanBlockScalarBody true sm u = .ok (tok, u')) :
    markTrue (pre ++ u.inp.iter) tok.span.start = true ∧ markTrue (pre ++ u.inp.iter) tok.span.stop = true ∧
    markTrue (pre ++ u.inp.iter) u'.mark = true :=
  block_token_marks_true true pre hpre sm hd b0 ind hind tail ht1 ht2 ls l b hl hl1 hls u hI hk hi hidx hlc tok u' h

open SaphyrModel.C14L SaphyrModel.C05T SaphyrModel.C05F in
/-- the same for every folded block scalar whose lines do not start with a blank -/
theorem folded_block_token_marks_true (pre : Str) (hpre : ∀ p, pre ≠ p ++ ['\r'])
    (sm : Marker) (hd : Hdr) (b0 : Brk) (ind : Nat) (hind : ind ≠ 0) (tail : Str)
    (ht1 : tail.headD '\x00' ≠ ' ') (ht2 : isBreak (tail.headD '\x00') = false) (ls : List (Str × Brk)) (l : Str) (b : Brk)
    (hl : FoldLine l) (hls : ∀ p ∈ ls, FoldLine p.1) (u : Sc)
    (hI : (u.indent + 1).toNat ≤ ind) (hk : u.inp.kind = .str)
    (hi : u.inp.iter = hd.txt ++ (b0.txt ++ (List.replicate ind ' ' ++ (l ++ (b.txt ++ restLinesB ind ls tail)))))
    (hidx : u.mark.index = pre.length) (hlc : advanceLC pre (1, 0) = (u.mark.line, u.mark.col))
    (tok : Token) (u' : Sc) (h : scanBlockScalarBody false sm u = .ok (tok, u')) :
    markTrue (pre ++ u.inp.iter) tok.span.start = true ∧ markTrue (pre ++ u.inp.iter) tok.span.stop = true ∧
    markTrue (pre ++ u.inp.iter) u'.mark = true :=
  block_token_marks_true false pre hpre sm hd b0 ind hind tail ht1 ht2 ls l b hl.1 (fold_head hl) (fun p hp => (hls p hp).1) u hI hk hi
    hidx hlc tok u' h

/-- non-vacuity: after `a: |` (index 4, line 1, column 4), the scalar `-`, CR LF, `  ab` LF, `   c` CR, then `x`:
    the token starts at index 9 (line 2, column 2), ends at index 17 (line 4, column 0); both marks are true -/
example :
    (match scanBlockScalarBody true ⟨3, 1, 3⟩
        { mkSc .str 0 ['-','\r','\n',' ',' ','a','b','\n',' ',' ',' ','c','\r','x'] with indent := 0, mark := ⟨4, 1, 4⟩ } with
     | .ok (tok, _) =>
       markTrue (['a',':',' ','|'] ++ ['-','\r','\n',' ',' ','a','b','\n',' ',' ',' ','c','\r','x']) tok.span.start &&
       markTrue (['a',':',' ','|'] ++ ['-','\r','\n',' ',' ','a','b','\n',' ',' ',' ','c','\r','x']) tok.span.stop &&
       tok.span.start.index == 9 && tok.span.stop.index == 17
     | _ => false) = true := by decide +kernel

open SaphyrModel.C04S in
/-- **The span of a single-quoted scalar starts at its opening quote and contains its closing quote — for every
    one-line value.** Let the whole input be `pre` followed by what remains, a single-quoted scalar as in
    `C04.single_quoted_scalar_token`, with the scanner's index equal to the number of characters consumed. Then
    the character of the input at the token's start index is the opening quote, the character just before its
    end index is the closing quote, the span is `2 +` the written length of the value long, lies on one line, and
    ends within the input. -/
theorem single_quoted_span_covers_quotes (pre v rest : Str) (hv : ∀ c ∈ v, isBreak c = false ∧ isZ c = false)
    (hz : isBreakz (rest.headD '\x00') = true) (u : Sc) (hk : u.inp.kind = .str)
    (hI : u.indent ≤ (u.mark.col : Int) + 1)
    (hi : u.inp.iter = '\'' :: (sqEnc v ++ '\'' :: rest)) (hidx : u.mark.index = pre.length)
    (tok : Token) (u' : Sc) (h : scanFlowScalar true u = .ok (tok, u')) :
    (pre ++ u.inp.iter)[tok.span.start.index]? = some '\'' ∧
    (pre ++ u.inp.iter)[tok.span.stop.index - 1]? = some '\'' ∧
    tok.span.stop.index = tok.span.start.index + (sqEnc v).length + 2 ∧
    tok.span.stop.line = tok.span.start.line ∧ tok.span.stop.col = tok.span.start.col + (sqEnc v).length + 2 ∧
    tok.span.stop.index ≤ (pre ++ u.inp.iter).length := by
  obtain ⟨_, h2, h3, _, h5, h6, h7⟩ := C05T.EvR.of_ok (C04.single_quoted_scalar_token v rest hv hz u hk hI hi) h
  rw [h2, h3, h7, h5, h6, hidx, hi]
  refine ⟨?_, ?_, by omega, rfl, by omega, ?_⟩
  · simp
  · have : pre.length + 1 + (sqEnc v).length + 1 - 1 = pre.length + (1 + (sqEnc v).length) := by omega
    rw [this, List.getElem?_append_right (by omega)]
    have h1 : pre.length + (1 + (sqEnc v).length) - pre.length = (sqEnc v).length + 1 := by omega
    rw [h1, List.getElem?_cons_succ, List.getElem?_append_right (Nat.le_refl _)]
    simp
  · simp only [List.length_append, List.length_cons]; omega

open SaphyrModel.C04P in
/-- **The span of a plain scalar on one line covers exactly its text — for every such line.** With the whole
    input `pre` followed by what remains (a plain scalar line as in `C04.plain_scalar_line_token`) and the
    scanner's index equal to the number of characters consumed: the characters of the input from the token's
    start index up to its end index are exactly the scalar's text — no leading or trailing blank, nothing of
    the line break —, the span lies on one line, and its columns differ by the length of the text. -/
theorem plain_scalar_span_covers_text (pre v rest : Str) (hv : PlainLine v) (u : Sc) (hk : u.inp.kind = .str)
    (hfl : u.flowLevel = 0) (hlw : u.leadingWhitespace = false) (hcap : 2 ≤ u.inp.cap)
    (hrest : Ending rest u.indent) (hC : u.indent + 1 ≤ (u.mark.col : Int))
    (hi : u.inp.iter = v ++ rest) (hidx : u.mark.index = pre.length)
    (tok : Token) (u' : Sc) (h : scanPlainScalarBody u = .ok (tok, u')) :
    ((pre ++ u.inp.iter).drop tok.span.start.index).take (tok.span.stop.index - tok.span.start.index) = v ∧
    tok.ty = .scalar .plain v ∧
    tok.span.stop.line = tok.span.start.line ∧ tok.span.stop.col = tok.span.start.col + v.length ∧
    tok.span.start.index ≤ tok.span.stop.index ∧ tok.span.stop.index ≤ (pre ++ u.inp.iter).length := by
  obtain ⟨h1, h2, h3, h4, h5, _⟩ := C05T.EvR.of_ok (C04.plain_scalar_line_token v rest hv u hk hfl hlw hcap hrest hC hi) h
  rw [h2, h3, h4, h5, hidx, hi]
  refine ⟨?_, h1, rfl, rfl, by omega, ?_⟩
  · rw [show pre.length + v.length - pre.length = v.length by omega]
    simp
  · simp only [List.length_append]; omega

/-- **The scanner's index never decreases — for every input, back-end and state.** Whatever the state a call of
    `next_token` (and of every scanner function below it: each keeps "the mark has reached `n`",
    `Sc/MI.lean`) starts from, if it returns normally the index of the scanner's mark is at least what it was. -/
theorem scanner_index_never_decreases (s : Sc) (r : Option Token) (s' : Sc) (h : nextToken s = .ok (r, s')) :
    s.mark.index ≤ s'.mark.index :=
  Mono.le (μ := Marker.index) (fun _ => Keeps.nextToken) h

/-- **Each span starts no later than it ends** — for the tokens of single- and double-quoted scalars, literal and
    folded block scalars, anchors and aliases, from every scanner state, on every back-end, whatever the input:
    the start mark is taken before anything is consumed, the end mark after, and the index only grows in between. -/
theorem scalar_token_spans_ordered (s : Sc) (tok : Token) (s' : Sc) :
    (∀ single, scanFlowScalar single s = .ok (tok, s') → tok.span.start.index ≤ tok.span.stop.index) ∧
    (∀ lit, scanBlockScalar lit s = .ok (tok, s') → tok.span.start.index ≤ tok.span.stop.index) ∧
    (∀ alias, scanAnchor alias s = .ok (tok, s') → tok.span.start.index ≤ tok.span.stop.index) :=
  ⟨fun single h => (TS.scanFlowScalar single 0).out s tok s' (Nat.zero_le _) h,
   fun lit h => (TS.scanBlockScalar lit 0).out s tok s' (Nat.zero_le _) h,
   fun alias h => (Ret.scanAnchor (μ := Marker.index) alias 0).out (Nat.zero_le _) h⟩

/-- **Each span starts no later than it ends — every token, every input.** For every text, every input back-end
    and capacity, and however many tokens are pulled: every token the scanner delivers has
    `start.index ≤ stop.index`. (Invariant: the queue only ever holds such tokens — each one is either an empty
    span, or runs from a mark taken before something was consumed to a mark taken after, and the index never
    decreases; proved function by function in `Sc/TokOrd.lean`.) -/
theorem token_spans_ordered (k : InKind) (cap : Nat) (text : Str) (fuel : Nat) :
    ∀ t ∈ (scanAll fuel (mkSc k cap text) []).1, t.span.start.index ≤ t.span.stop.index :=
  scanAll_ord fuel (mkSc k cap text) [] (fun _ h => by simp [mkSc] at h) (fun _ h => by simp at h)

/-- **… and every event.** For every text, back-end and capacity: feed the tokens the scanner delivers (all of
    them, `sfuel` being enough or not) to the parser; every event span it reports starts no later than it ends.
    This is the clause "each span starts no later than it ends" of C12 for the whole pipeline of the model. -/
theorem event_spans_ordered_for_every_text (k : InKind) (cap : Nat) (text : Str) (sfuel pfuel : Nat)
    (scanErr : Option ScanError) (eofm : Marker) (keep : Bool) :
    ∀ v ∈ (iterate pfuel (Api.init (PState.init (scanAll sfuel (mkSc k cap text) []).1 scanErr eofm keep)) []).1,
      v.2.start.index ≤ v.2.stop.index :=
  event_spans_ordered _ scanErr eofm keep pfuel (token_spans_ordered k cap text sfuel)

/-- … in lines too: every token the scanner delivers starts on a line no later than the one it ends on — every
    text, back-end and capacity (the same argument for the line of the mark) -/
theorem token_span_lines_ordered (k : InKind) (cap : Nat) (text : Str) (fuel : Nat) :
    ∀ t ∈ (scanAll fuel (mkSc k cap text) []).1, t.span.start.line ≤ t.span.stop.line :=
  scanAll_ordered (μ := Marker.line) fuel (mkSc k cap text) [] (fun _ h => by simp [mkSc] at h) (fun _ h => by simp at h)

/-- … and so does every event, for every text -/
theorem event_span_lines_ordered_for_every_text (k : InKind) (cap : Nat) (text : Str) (sfuel pfuel : Nat)
    (scanErr : Option ScanError) (eofm : Marker) (keep : Bool) :
    ∀ v ∈ (iterate pfuel (Api.init (PState.init (scanAll sfuel (mkSc k cap text) []).1 scanErr eofm keep)) []).1,
      v.2.start.line ≤ v.2.stop.line :=
  fun v hv => ((event_spans_are_token_spans _ scanErr eofm keep pfuel).1 v hv).elim
    (fun sp => sp.start.line ≤ sp.stop.line) (token_span_lines_ordered k cap text sfuel) fun _ _ => Nat.le_refl _

/-- … and through the push interface (`Parser::load`, which the document loaders consume): every span it delivers
    for the tokens of any text starts no later than it ends -/
theorem push_event_spans_ordered_for_every_text (k : InKind) (cap : Nat) (text : Str) (sfuel : Nat)
    (scanErr : Option ScanError) (eofm : Marker) (keep : Bool) (n : Nat)
    (hn : 16 * (scanAll sfuel (mkSc k cap text) []).1.length + 2 ≤ n) (s : Push)
    (h : load true n ⟨Api.init (PState.init (scanAll sfuel (mkSc k cap text) []).1 scanErr eofm keep), []⟩ = .ok s) :
    ∀ v ∈ s.out, v.2.start.index ≤ v.2.stop.index ∧ v.2.start.line ≤ v.2.stop.line :=
  fun v hv => (push_spans_are_token_spans _ scanErr eofm keep n hn s h v hv).elim
    (fun sp => sp.start.index ≤ sp.stop.index ∧ sp.start.line ≤ sp.stop.line)
    (fun t ht => ⟨token_spans_ordered k cap text sfuel t ht, token_span_lines_ordered k cap text sfuel t ht⟩)
    fun _ _ => ⟨Nat.le_refl _, Nat.le_refl _⟩

/-- the line of the scanner's mark never decreases either (every state, input and back-end) -/
theorem scanner_line_never_decreases (s : Sc) (r : Option Token) (s' : Sc) (h : nextToken s = .ok (r, s')) :
    s.mark.line ≤ s'.mark.line :=
  Mono.le (μ := Marker.line) (fun _ => Keeps.nextToken) h

end SaphyrModel.C12
