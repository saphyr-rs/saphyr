import SaphyrModel.Lookup
/-! # C20 — Mapping lookups, equality and hashing are mutually consistent (lookup model)

`hashOf` is the node hash (external: `derive(Hash)` + the map's `BuildHasher`); the one assumption
is the contract `HashOk`: equal nodes hash equally — which the harness checks on the real code with
a recording `Hasher`. -/
namespace SaphyrModel.C20

/-- the hashing contract: nodes that compare equal hash equally -/
def HashOk (hashOf : Node → Nat) : Prop := ∀ a b, Node.eqv a b = true → hashOf a = hashOf b

/-- looking up by (hash, equality) finds what looking up by equality finds -/
theorem hashed_lookup_is_lookup (hashOf : Node → Nat) (hc : HashOk hashOf) (m : List (Node × Node)) (key : Node) :
    mapGetHashed hashOf m (hashOf key) (fun k => Node.eqv k key) = mapGet m key := by
  unfold mapGetHashed mapGet
  -- the two tests are the same function: where the keys are equal the hashes are too
  congr 2
  funext p
  cases he : Node.eqv p.1 key with
  | true => simp [hc _ _ he, he]
  | false => simp [he]

/-- The four ways of asking for string key `k` agree (for every node, mapping or not). -/
theorem four_ways_agree (hashOf : Node → Nat) (hc : HashOk hashOf) (n : Node) (k : Str) :
    asMappingGet hashOf n k = getExplicit n k ∧
    indexStr hashOf n k = getExplicit n k ∧
    containsMappingKey hashOf n k = (getExplicit n k).isSome := by
  have h : asMappingGet hashOf n k = getExplicit n k := by
    cases n with
    | map sp m => exact hashed_lookup_is_lookup hashOf hc m (strKey k)
    | _ => rfl
  exact ⟨h, h, by simp [containsMappingKey, h]⟩

/-- a key equals the string node `k` exactly when it is a resolved string with content `k` -/
theorem eqv_strKey (x : Node) (k : Str) :
    Node.eqv x (strKey k) = true ↔ ∃ sp, x = .value sp (.string k) := by
  unfold strKey
  cases x with
  | value sp s => cases s <;> simp [Node.eqv, scalarEq]
  | _ => simp [Node.eqv]

/-- … and an entry is found exactly when some key of the mapping is the resolved string `k`;
    a non-string key whose text equals `k` (the integer `1` for "1") is never found -/
theorem found_iff (sp : Span) (m : List (Node × Node)) (k : Str) :
    (getExplicit (.map sp m) k).isSome = true ↔ ∃ p ∈ m, ∃ sp', p.1 = .value sp' (.string k) := by
  unfold getExplicit mapGet
  simp only [Option.isSome_map, List.find?_isSome]
  constructor
  · rintro ⟨p, hp, he⟩
    exact ⟨p, hp, (eqv_strKey _ _).1 he⟩
  · rintro ⟨p, hp, hs⟩
    exact ⟨p, hp, (eqv_strKey _ _).2 hs⟩

/-- integer indexing of a sequence agrees with `as_sequence_get` (it panics exactly when `get`
    reports absence) -/
theorem int_index_sequence (sp : Span) (xs : List Node) (i : Nat) :
    indexInt (.seq sp xs) i = asSequenceGet (.seq sp xs) i := rfl

example : (getExplicit (.map Span.dflt [(.value Span.dflt (.int 1), .bad Span.dflt)]) ['1']).isSome = false := by decide

end SaphyrModel.C20
