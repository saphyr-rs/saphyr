import SaphyrModel.Proofs.ParserSteps
import SaphyrModel.Proofs.OpenQuote
import SaphyrModel.Sc.KS
/-! # C06 — Ill-formed YAML is rejected (component theorems)

Each theorem is about the component that rejects one damage class of the property, for **every**
parser or scanner state / token stream it quantifies over. Of the scanner-level classes, "a quoted scalar still open
at end of input" is proved for every text (`open_quoted_scalar_rejected`); unknown escapes, malformed hexadecimal
escapes and stale required keys are proved at the function that rejects them, on a string input
(`unknown_escape_rejected`, `nonhex_escape_rejected`; `stale_required_key_rejected` for either back-end); the others
(tab indentation, …) are not covered by theorems here: for them the check relies on correspondence + oracle. The full
property quantifies over the generator's damage operators (text transformers), so it has no closed Lean form. -/
namespace SaphyrModel.C06

/-- an alias with no preceding anchor of that name is an error, in every parser state and for
    every non-empty continuation stack -/
theorem alias_without_anchor_rejected (p : PState) (t : Token) (name : Str) (rest : List Token)
    (b i : Bool) (hp : p.toks = t :: rest) (ht : t.ty = .alias name)
    (hn : lookup name p.anchors = none) (hs : p.states ≠ []) :
    ∃ e, parseNode p b i = .err e := by
  unfold parseNode
  simp only [peekTok, hp, ht]
  cases hst : p.states with
  | nil => exact absurd hst hs
  | cons s ss =>
    simp [popState, hst, skipTok, hn]

/-- a tag whose named handle was never declared is an error -/
theorem undeclared_handle_rejected (p : PState) (span : Span) (h sfx : Str)
    (hform : isHandleForm h = true) (hne : h ≠ ['!', '!']) (hl : lookup h p.tags = none) :
    ∃ e, resolveTag p span h sfx = .err e := by
  unfold resolveTag
  have hne2 : ¬ (h = [] ∧ sfx = ['!']) := by
    intro hh; rw [hh.1] at hform; simp [isHandleForm] at hform
  simp [hne, hne2, hl, hform]

/-- a second %YAML directive in the same document is an error (whatever follows) -/
theorem repeated_yaml_directive_rejected (fuel : Nat) (p : PState) (t : Token) (rest : List Token)
    (a b : Nat) (acc : List (Str × Str)) (hp : p.toks = t :: rest) (ht : t.ty = .versionDirective a b) :
    ∃ e, directivesLoop (fuel + 1) p true acc = .err e := by
  unfold directivesLoop
  simp [peekTok, hp, ht, Bind.bind]

-- In the proofs below a `match` on the type of the token `t` takes its default arm because `t.ty` is none of
-- the constructors listed: `simp only` reduces such a `match` by itself, discharging the side conditions of the
-- matcher's equation for the default arm with the hypotheses `t.ty ≠ …` in the context.

/-- directives that are not followed by `---`: after the directives, any token but DocumentStart
    is an error -/
theorem directives_need_document_start (p : PState) (q : PState) (t : Token) (rest : List Token)
    (hd : processDirectives (p.toks.length + 1) p false = .ok q) (hq : q.toks = t :: rest)
    (ht : t.ty ≠ .documentStart) :
    ∃ e, explicitDocumentStart p = .err e := by
  unfold explicitDocumentStart
  simp only [hd, Bind.bind, peekTok, hq]
  exact ⟨_, rfl⟩

/-- a second root node: once a document's root node is complete (state `DocumentEnd` popped into
    `DocumentStart` without an explicit marker), a token that is not a document marker, a
    directive or the end of the stream is an error -/
theorem second_root_rejected (p : PState) (t : Token) (rest : List Token)
    (hp : p.toks = t :: rest)
    (h1 : t.ty ≠ .documentEnd) (h2 : t.ty ≠ .streamEnd) (h3 : t.ty ≠ .documentStart)
    (h4 : ∀ a b, t.ty ≠ .versionDirective a b) (h5 : ∀ a b, t.ty ≠ .tagDirective a b) :
    ∃ e, documentStart p false = .err e := by
  unfold documentStart
  rw [skipDocEnds_id p t rest _ hp h1]
  simp only [Bind.bind, peekTok, hp, Bool.false_eq_true, ↓reduceIte]
  exact directives_need_document_start p _ t rest (processDirectives_none p t rest _ hp h4 h5) hp h3

/-- non-vacuity: the hypotheses of `second_root_rejected` are met by a scalar token -/
example : ∃ e, documentStart (PState.mk [⟨Span.empty ⟨0, 1, 0⟩, .scalar .plain ['b']⟩] none ⟨0, 1, 0⟩
    .documentStart [] [] 1 [] false) false = .err e :=
  second_root_rejected _ _ [] rfl (by simp) (by simp) (by simp) (by simp) (by simp)

/-- tokens that can never continue an open flow collection: the start or the end of the stream, a document
    marker, a directive, or a block-end token -/
def notInFlow : TokenType → Bool
  | .streamEnd | .documentStart | .documentEnd | .versionDirective .. | .tagDirective ..
  | .blockEnd | .streamStart => true
  | _ => false

/-- **A flow sequence still open at the end of input (or at a document marker) is an error**: in the
    state after an entry of `[ … `, any token that is neither `,` nor `]` is rejected — in particular
    StreamEnd and the closing bracket of the other kind, `}`. -/
theorem open_flow_sequence_rejected (p : PState) (t : Token) (rest : List Token) (hp : p.toks = t :: rest)
    (h1 : t.ty ≠ .flowSequenceEnd) (h2 : t.ty ≠ .flowEntry) :
    ∃ e, flowSequenceEntry p false = .err e := by
  unfold flowSequenceEntry
  simp only [skipFirst, Bool.false_eq_true, ↓reduceIte, Pure.pure, Bind.bind, peekTok, hp, requireFlowEntry]
  exact ⟨_, rfl⟩

/-- the same for a flow mapping `{ … `: after a pair, anything but `,` or `}` (StreamEnd, `]`, …) is
    rejected -/
theorem open_flow_mapping_rejected (p : PState) (t : Token) (rest : List Token) (hp : p.toks = t :: rest)
    (h1 : t.ty ≠ .flowMappingEnd) (h2 : t.ty ≠ .flowEntry) :
    ∃ e, flowMappingKey p false = .err e := by
  unfold flowMappingKey
  simp only [skipFirst, Bool.false_eq_true, ↓reduceIte, Pure.pure, Bind.bind, peekTok, hp, requireFlowEntry]
  exact ⟨_, rfl⟩

/-- directly after `[` or after `,`: the end of the stream, a document marker, a directive or a
    block end where an entry is expected is an error (no properties pending) -/
theorem flow_entry_expected_rejected (p : PState) (t : Token) (rest : List Token) (b i : Bool)
    (hp : p.toks = t :: rest) (ht : notInFlow t.ty = true) :
    ∃ e, parseNode p b i = .err e := by
  unfold parseNode parseNodeContent
  simp only [peekTok, hp]
  obtain ⟨sp, ty⟩ := t
  cases ty <;> simp [notInFlow] at ht <;> simp

/-- a mismatched closing bracket: `}` where a flow sequence is open, `]` where a flow mapping is open -/
theorem mismatched_bracket_rejected (p : PState) (sp : Span) (rest : List Token) :
    (p.toks = ⟨sp, .flowMappingEnd⟩ :: rest → ∃ e, flowSequenceEntry p false = .err e) ∧
    (p.toks = ⟨sp, .flowSequenceEnd⟩ :: rest → ∃ e, flowMappingKey p false = .err e) :=
  ⟨fun h => open_flow_sequence_rejected p _ rest h (by simp) (by simp),
   fun h => open_flow_mapping_rejected p _ rest h (by simp) (by simp)⟩

open SaphyrModel.Sc in
/-- **A quoted scalar still open at the end of the input is rejected — for every text.** On a string input,
    standing at an opening quote (single or double): if the closing quote character of that style does not occur
    anywhere in the rest of the input — whatever else does: escapes, line breaks, blank lines, document markers,
    any number of lines — then `scan_flow_scalar` returns no token: the result is a scan error (or the model runs
    out of the fuel it was given / stops at a structural site, which `C01.scanner_no_structural_panic` excludes for
    a run from the initial state). Proof: the loop of the scanner
    has one normal exit, taken only when the character just looked at is the closing quote, and the scanner only
    ever moves forward through the text (`Proofs/OpenQuote.lean`). -/
theorem open_quoted_scalar_rejected (single : Bool) (u : Sc) (hk : u.inp.kind = .str)
    (hopen : quoteOf single ∉ u.inp.iter.tail) :
    match scanFlowScalar single u with
    | .ok _ => False
    | .err _ => True
    | .panic p => OkSite p := by
  have hks := (KS.scanFlowScalar single).out u hk
  cases h : scanFlowScalar single u with
  | ok r =>
    obtain ⟨tok, u'⟩ := r
    exact hopen (scanFlowScalar_ok_has_quote single u hk tok u' h)
  | err e => trivial
  | panic p => simp only [h] at hks; exact hks

open SaphyrModel.Sc in
/-- non-vacuity: `"a\nb` (with an escape), a line feed, ` c`, the end of the input — no double quote after the
    opening one: an error, not a token -/
example :
    (match scanFlowScalar false { mkSc .str 0 ['"','a','\\','n','b','\n',' ','c'] with mark := ⟨3, 1, 3⟩ } with
     | .err e => e.info == "while scanning a quoted scalar, found unexpected end of stream"
     | _ => false) = true := by decide +kernel

open SaphyrModel.Sc in
/-- **An unknown escape is rejected**, in every scanner state on a string input: a backslash followed by any
    character that is not one of the 18 named escapes and not `x`, `u`, `U` (this includes the end of the
    input) makes `resolve_flow_scalar_escape_sequence` return an error. -/
theorem unknown_escape_rejected (sm : Marker) (s : Sc) (hk : s.inp.kind = .str) (e : Char)
    (he : s.inp.iter.getD 1 '\x00' = e) (hn : namedEscape e = none) (hx : e ≠ 'x') (hu : e ≠ 'u') (hU : e ≠ 'U') :
    ∃ err, resolveEscape sm s = .err err :=
  resolveEscape_unknown sm s hk e he hn hx hu hU

open SaphyrModel.Sc in
/-- **A truncated or malformed hexadecimal escape is rejected**, for every text: if any of the `n` characters
    that should be hexadecimal digits is not one (a sign, a blank, a quote, the end of the input — anything for
    which `is_hex` says no), the digit loop returns an error, whatever the other digits are. -/
theorem nonhex_escape_rejected (sm : Marker) (n : Nat) (s : Sc) (hk : s.inp.kind = .str)
    (hbad : ∃ j, j < n ∧ isHex (s.inp.iter.getD j '\x00') = false) :
    ∃ e, hexLoop sm n n 0 s = .err e := by
  obtain ⟨j, hj, hb⟩ := hbad
  exact hexLoop_rejects sm n n 0 s hk (Nat.le_refl _) ⟨j, hj, by rw [Nat.sub_self, Nat.zero_add]; exact hb⟩

/-- in particular a sign, a blank, `g` and NUL are not hexadecimal digits -/
example : Sc.isHex '+' = false ∧ Sc.isHex '-' = false ∧ Sc.isHex ' ' = false ∧ Sc.isHex 'g' = false ∧ Sc.isHex '\x00' = false := by decide

open SaphyrModel.Sc in
/-- **A required simple key that has gone stale is an error** — the component behind "an implicit key longer than
    1024 characters" and "a quoted implicit key spanning lines": in block context, if some pending simple key that
    is *required* (it sits at the indentation of its block mapping) started on an earlier line, or more than 1024
    characters back, `stale_simple_keys` reports an error — in every scanner state. (A pending key that is not
    required is dropped silently; the `:` that follows then finds no key.) -/
theorem stale_required_key_rejected (s : Sc) (hfl : s.flowLevel = 0)
    (h : ∃ sk ∈ s.simpleKeys, sk.possible = true ∧ sk.required = true ∧
      (sk.mark.line < s.mark.line ∨ sk.mark.index + 1024 < s.mark.index)) :
    ∃ e, staleSimpleKeys s = .err e := by
  obtain ⟨sk, hmem, hp, hr, hstale⟩ := h
  unfold staleSimpleKeys
  simp only [Bind.bind, getS]
  have hany : (s.simpleKeys.any fun sk => (sk.possible && s.flowLevel == 0 &&
      (decide (sk.mark.line < s.mark.line) || decide (sk.mark.index + 1024 < s.mark.index))) && sk.required) = true := by
    rw [List.any_eq_true]
    refine ⟨sk, hmem, ?_⟩
    simp only [hp, hfl, hr, beq_self_eq_true, Bool.and_self, Bool.true_and, Bool.and_true, Bool.or_eq_true, decide_eq_true_eq]
    exact hstale
  simp only [hany, ↓reduceIte]
  exact ⟨_, rfl⟩

end SaphyrModel.C06
