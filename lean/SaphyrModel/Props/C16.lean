import SaphyrModel.Proofs.Anchors
/-! # C16 — Tags resolve through the directives in force (parser level)

The specification is `expectedTag`: a tag spelling is `(handle, suffix)` as delivered by the scanner (suffix already
percent-decoded); the table binds handles to prefixes. -/
namespace SaphyrModel.C16

/-- specification of tag resolution, written from the property text -/
def expectedTag (table : List (Str × Str)) (handle suffix : Str) : Option Tag :=
  if handle = ['!', '!'] then
    some ⟨(lookup ['!', '!'] table).getD "tag:yaml.org,2002:".toList, suffix⟩   -- `!!` unless redefined
  else if handle = [] ∧ suffix = ['!'] then
    some ⟨(lookup [] table).getD [], suffix⟩                                       -- the non-specific tag `!`
  else match lookup handle table with
    | some pfx => some ⟨pfx, suffix⟩                                               -- a declared handle (incl. `!`)
    | none => if isHandleForm handle then none                                     -- `!name!` never declared: error
              else some ⟨handle, suffix⟩                                           -- `!name` local tag, `!<…>` verbatim

/-- `resolve_tag` implements the specification: same tag, and an error exactly for an undeclared
    named handle -/
theorem resolveTag_spec (p : PState) (span : Span) (h sfx : Str) :
    (match resolveTag p span h sfx with
     | .ok t => expectedTag p.tags h sfx = some t
     | .err _ => expectedTag p.tags h sfx = none
     | .panic _ => False) := by
  unfold resolveTag expectedTag
  by_cases h1 : h = ['!', '!']
  · simp only [h1, if_true]
  · simp only [h1, if_false]
    by_cases h2 : h = [] ∧ sfx = ['!']
    · simp only [h2, and_self, if_true]
    · simp only [h2, if_false]
      cases hl : lookup h p.tags with
      | some pfx => simp only
      | none =>
        simp only
        by_cases h3 : isHandleForm h = true
        · simp only [h3, if_true]
        · simp only [h3]; rfl

theorem tagsInsert_lookup (h pf : Str) (t : List (Str × Str)) (k : Str) :
    lookup k (tagsInsert h pf t) = if k = h then some pf else lookup k t := by
  induction t with
  | nil => simp only [tagsInsert, lookup]
  | cons kv r ih =>
    obtain ⟨k', v'⟩ := kv
    simp only [tagsInsert]
    split
    · rename_i hk; subst hk
      simp only [lookup]
      split <;> simp_all
    · simp only [lookup, ih]
      split <;> simp_all

/-- All `%TAG` declarations of a document are in force together: after `tagsExtend`, every declared
    handle resolves to its (last) declared prefix and every other handle to what it was bound to. -/
theorem tagsExtend_lookup (old new : List (Str × Str)) (k : Str) :
    lookup k (tagsExtend old new) =
      match lookup k new.reverse with
      | some pf => some pf
      | none => lookup k old := by
  unfold tagsExtend
  induction new generalizing old with
  | nil => simp [lookup]
  | cons kv r ih =>
    obtain ⟨h, pf⟩ := kv
    rw [List.foldl_cons, List.reverse_cons, ih, lookup_append]
    cases hr : lookup k r.reverse with
    | some v => simp
    | none =>
      simp only [lookup, tagsInsert_lookup]
      split <;> simp_all

/-- A handle may be declared only once per document: the directive loop rejects a `%TAG` whose
    handle is already among this document's declarations. -/
theorem duplicate_handle_rejected (fuel : Nat) (p : PState) (t : Token) (rest : List Token)
    (h pf : Str) (v : Bool) (acc : List (Str × Str)) (hp : p.toks = t :: rest)
    (ht : t.ty = .tagDirective h pf) (hne : h ≠ []) (hdup : (lookup h acc).isSome = true) :
    ∃ e, directivesLoop (fuel + 1) p v acc = .err e := by
  unfold directivesLoop
  simp [peekTok, hp, ht, Bind.bind, hne, hdup]

/-- non-vacuity / examples of the specification -/
example : expectedTag [] ['!', '!'] "str".toList = some ⟨"tag:yaml.org,2002:".toList, "str".toList⟩ := by decide +kernel
example : expectedTag [("!e!".toList, "tag:e,".toList)] "!e!".toList ['x'] = some ⟨"tag:e,".toList, ['x']⟩ := by decide +kernel
example : expectedTag [] "!m!".toList ['x'] = none := by decide +kernel

end SaphyrModel.C16
