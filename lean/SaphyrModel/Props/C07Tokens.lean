import SaphyrModel.Proofs.TokLoad
/-! # C07 (and C03) — from tokens to loaded documents

The parser theorem for token trees composed with the loader theorem: what is loaded is the
denotation of the tree the tokens present. -/
namespace SaphyrModel.C07
open SaphyrModel.TokTree

/-- **Tokens → events → document.** For every well-formed token tree `t` (block and flow collections,
    scalars of every style, any depth), every node type (marked or bare) and resolution mode (eager or
    deferred): plain iteration over the one-document stream presenting `t` ends normally after
    `|events| + 5` calls, and feeding its events to the loader yields exactly one document, the
    denotation of `t` — items in order, every key paired with the node that follows it, pairs
    inserted in document order with the map's insert semantics, each scalar the value chosen by its
    text and style — and leaves nothing on the loader's node stack. (The loaders consume the push
    interface, which delivers these very events: `C17.push_eq_pull`.) -/
theorem tokens_load_to_denotation (t : TT) (hw : t.wf = true) (c : LCfg) (ss se : Span) (eof : Marker)
    (keep : Bool) (m : Nat) :
    let r := iterate (t.events.length + 5 + m) (Api.init (PState.init (streamToks ss se t) none eof keep)) []
    r.2 = none ∧
    ∃ s, foldEvents c {} r.1 = .ok s ∧ s.docs = [(denote c [] t.toE).1] ∧ s.docStack = [] :=
  tokens_load t hw c ss se eof keep m

end SaphyrModel.C07
