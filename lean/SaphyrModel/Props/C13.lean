import SaphyrModel.Props.C08
import SaphyrModel.Proofs.TokDocs
/-! # C13 — Every JSON text loads with its JSON meaning (component theorems)

JSON's string escapes are a subset of YAML's double-quoted escapes with the same meaning; JSON's
literals resolve to boolean / null; JSON integers within 64 bits resolve to that integer
(`C08.int_complete`). The structural part: the parser half is `json_tokens_parse`; the scanner half (flow
collections with arbitrary insignificant whitespace give the token sequence it starts from) is not proved. -/
namespace SaphyrModel.C13
open SaphyrModel.Sc ProtoR

/-- RFC 8259 §7: the two-character escapes and their code points -/
def jsonEscapes : List (Char × Nat) :=
  [('"', 0x22), ('\\', 0x5C), ('/', 0x2F), ('b', 0x08), ('f', 0x0C), ('n', 0x0A), ('r', 0x0D), ('t', 0x09)]

/-- every JSON escape is decoded by the double-quoted scanner to the JSON code point -/
theorem json_escapes_decode : ∀ p ∈ jsonEscapes, namedEscape p.1 = some (Char.ofNat p.2) := by decide +kernel

/-- `\uXXXX` is a hexadecimal escape of the scanner (4 digits), not a named one -/
theorem json_u_escape_is_hex : namedEscape 'u' = none := by decide +kernel

/-- JSON's three literals resolve to the values JSON gives them -/
theorem json_literals_resolve :
    parseFromCow "true".toList = .bool true ∧ parseFromCow "false".toList = .bool false ∧
    parseFromCow "null".toList = .null := by decide +kernel

/-- a quoted JSON string never changes type: whatever its content it loads as that string -/
theorem json_string_stays_string (v : Str) :
    parseWithMeta v .doubleQuoted none = some (.string v) :=
  C08.nonplain_is_string v .doubleQuoted none (by decide)

open TokTree in
/-- **JSON structure, parser half.** A JSON value is a tree of flow sequences, flow mappings and scalars;
    for every such tree (any depth, any spans) the parser turns the token sequence
    `[`, `]`, `{`, `}`, `,`, Key, Value, scalars into exactly the events of that tree: arrays as
    sequences in order, objects as mappings with their members in order. (The scanner half — that
    every spacing of the JSON text yields this token sequence — rests on the correspondence.) -/
theorem json_tokens_parse (t : TT) (hw : t.wf = true) (hf : t.flowOnly = true) (ss se : Span) (eof : Marker) (keep : Bool) :
    ∃ sp pf, steps (t.events.length + 4) (PState.init (streamToks ss se t) none eof keep) =
        .ok ((.streamStart, ss) :: (.documentStart false, sp) :: (t.events ++ [(.documentEnd, se), (.streamEnd, se)]), pf) ∧
      pf.state = .end ∧ pf.toks = [] :=
  stream_parses t hw ss se eof keep

end SaphyrModel.C13
