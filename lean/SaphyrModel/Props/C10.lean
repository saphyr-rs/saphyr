import SaphyrModel.Proofs.Rel.Complete
/-! # C10 — All input back-ends behave identically

`StrInput` (`kind = .str`) reads straight from the remaining string, overriding some twenty trait
methods with byte-level fast paths; `BufferedInput` and every contract-conforming ring input
(`kind = .buf`, any capacity) use the trait's default methods over a look-ahead buffer padded with
NUL at the end of input.

**`theorem C10 : C10_full`.** A panic of either side (a look-ahead request the ring cannot hold, a `peek`
beyond what was requested, a `skip` on an empty ring, exhausted fuel) claims nothing: the look-ahead
discipline and termination are C01's subject.

How it is proved:
* `input_interface_agrees` — every operation of the `Input` interface that reads or consumes characters returns
  the same value on a string input and on a buffered input of any capacity that see the same characters
  (`SimIn`), and leaves them seeing the same characters. Compared nowhere, because they differ by design:
  `buf_is_empty`, `buflen`, `bufmaxlen` (the third item deals with the functions that branch on them);
  `raw_read_non_breakz_ch` agrees when the buffer is empty (`raw_read_agrees`). `StrInput`'s overrides whose
  code is a different algorithm (byte tests for document indicators and `next_can_be_plain_scalar`, slice scans,
  `skip_ws_to_eol`) are proved equal to the trait defaults (loops over `look_ch`/`skip`) by induction over the
  text.
* `Proofs/Rel/` — a relational Hoare logic over pairs of scanner states that differ only in their
  input, one lemma per model function (`Rel/State.lean`, `Rel/Scan1.lean` … `Rel/Scan3.lean`, in the order of the
  model files), up to `Scanner::next` and the run.
* the three functions of the scanner that branch on the state of the look-ahead buffer and take
  different paths on the two back-ends are proved to agree by hand (`plain_chunks_agree`,
  `content_line_agrees`, `block_scalar_indent_agrees`): the chunked word loop in lock-step with stuttering at the chunk
  boundaries, the other two via unary lemmas "this run consumes exactly …" (for the indentation one lemma for both kinds).
The parser is the same code over the token stream, so equal token streams give equal events. -/
namespace SaphyrModel.C10
open SaphyrModel.Sc

/-- C10 for the scanner, full strength: for every text and every capacity the contract allows, the
string back-end and a buffered back-end deliver the same tokens (values, spans) and the same
outcome (end of stream or the same error) — whenever neither run stops at a panic site. -/
def C10_full : Prop :=
  ∀ (text : Str) (cap fuel : Nat), 8 ≤ cap →
    let a := scanAll fuel (mkSc .str 128 text) []
    let b := scanAll fuel (mkSc .buf cap text) []
    (∀ p, a.2.1 ≠ .panic p) → (∀ p, b.2.1 ≠ .panic p) → a.1 = b.1 ∧ a.2.1 = b.2.1

/-- the chunked word loop of `scan_plain_scalar` agrees across back-ends whatever their `bufmaxlen`s
    (the chunk boundaries fall at different places; lock-step with stuttering at the boundaries) -/
theorem plain_chunks_agree (f1 f2 : Nat) (str : Str) : RelS (plainChunks f1 str) (plainChunks f2 str) :=
  plainChunks_rel f1 f2 str

/-- `scan_block_scalar_content_line` agrees across back-ends: buffer first and then raw reads behind it on
    the buffered input, one of the two paths on the string input — the same characters up to the next break -/
theorem content_line_agrees (str : Str) : RelS (scanBlockScalarContentLine str) (scanBlockScalarContentLine str) :=
  line_rel str

/-- `skip_block_scalar_indent` agrees across back-ends whatever their `bufmaxlen`s: the single look-ahead
    request of the fitting case and the refill loop of the other skip the same spaces -/
theorem block_scalar_indent_agrees (ind f1 f2 : Nat) (b : Str) :
    RelS (skipBlockScalarIndent ind f1 b) (skipBlockScalarIndent ind f2 b) := indent_rel ind f1 f2 b

/-- **C10 for the scanner: all texts, all capacities, all fuels.** -/
theorem C10 : C10_full :=
  fun text cap fuel _ => scan_backends_agree_all text 128 cap fuel fuel

/-- … and for arbitrary capacities and fuels on both sides (the contract's `cap ≥ 8` is not even needed:
    a ring that is too small makes the buffered side stop at a panic site, about which nothing is claimed) -/
theorem scan_backends_agree_everywhere (text : Str) (cap cap' fuel fuel' : Nat) :
    let a := scanAll fuel (mkSc .str cap text) []
    let b := scanAll fuel' (mkSc .buf cap' text) []
    (∀ p, a.2.1 ≠ .panic p) → (∀ p, b.2.1 ≠ .panic p) → a.1 = b.1 ∧ a.2.1 = b.2.1 :=
  scan_backends_agree_all text cap cap' fuel fuel'

/-- **The character-reading operations of the `Input` interface agree between the string back-end and any
    buffered back-end.** Not in the list: `buf_is_empty`, `buflen`, `bufmaxlen` (they differ by design),
    `raw_read_non_breakz_ch` (`raw_read_agrees`), and `skip_ws_to_eol` called with `SkipTabs::Result`
    (`skipWsToEol_agree_all` of `Proofs/InputAgree.lean`). -/
theorem input_interface_agrees :
    (∀ n, Agrees (In.lookahead n)) ∧ Agrees In.peek ∧ (∀ n, Agrees (In.peekNth n)) ∧
    Agrees In.skip ∧ (∀ n, Agrees (In.skipN n)) ∧ Agrees In.lookCh ∧
    (∀ c, Agrees (In.nextCharIs c)) ∧ (∀ n c, Agrees (In.nthCharIs n c)) ∧
    (∀ c1 c2, c1 ≠ '\x00' → c2 ≠ '\x00' → Agrees (In.next2Are c1 c2)) ∧
    (∀ c1 c2 c3, c1 ≠ '\x00' → c2 ≠ '\x00' → c3 ≠ '\x00' → Agrees (In.next3Are c1 c2 c3)) ∧
    Agrees In.nextIsDocumentIndicator ∧ Agrees In.nextIsDocumentStart ∧ Agrees In.nextIsDocumentEnd ∧
    Agrees In.nextIsBlankOrBreak ∧ Agrees In.nextIsBlankOrBreakz ∧ Agrees In.nextIsBlank ∧
    Agrees In.nextIsBreak ∧ Agrees In.nextIsBreakz ∧ Agrees In.nextIsZ ∧ Agrees In.nextIsFlow ∧
    Agrees In.nextIsDigit ∧ Agrees In.nextIsAlpha ∧
    (∀ fl, Agrees (In.nextCanBePlainScalar fl)) ∧
    Agrees In.skipWhileNonBreakz ∧ Agrees In.skipWhileBlank ∧ (∀ out, Agrees (In.fetchWhileIsAlpha out)) ∧
    Agrees (In.skipWsToEol .yes) ∧ Agrees (In.skipWsToEol .no) :=
  ⟨lookahead_agree, peek_agree, peekNth_agree, skip_agree, skipN_agree, lookCh_agree', nextCharIs_agree, nthCharIs_agree,
   next2Are_agree, next3Are_agree, nextIsDocumentIndicator_agree, nextIsDocumentStart_agree,
   nextIsDocumentEnd_agree, nextIsBlankOrBreak_agree, nextIsBlankOrBreakz_agree, nextIsBlank_agree,
   nextIsBreak_agree, nextIsBreakz_agree, nextIsZ_agree, nextIsFlow_agree, nextIsDigit_agree, nextIsAlpha_agree,
   nextCanBePlainScalar_agree, skipWhileNonBreakz_agree, skipWhileBlank_agree, fetchWhileIsAlpha_agree,
   skipWsToEol_agree .yes (Or.inl rfl), skipWsToEol_agree .no (Or.inr rfl)⟩

/-- `raw_read_non_breakz_ch` reads behind the look-ahead buffer; with the buffer empty (what
`scan_block_scalar_content_line` checks first) it agrees with the string back-end -/
theorem raw_read_agrees (i j : In) (h : SimIn i j) (hb : j.buf = []) :
    AgreeR j (In.rawReadNonBreakzCh i) (In.rawReadNonBreakzCh j) := rawRead_agree i j h hb

/-- agreement composes: any program built from agreeing operations agrees -/
theorem agreement_composes {α β : Type} {m : M In α} {f : α → M In β} (h1 : Agrees m) (h2 : ∀ a, Agrees (f a)) :
    Agrees (m >>= f) := Agrees.bind h1 h2

/-- the trait's default loop `while p(look_ch()) { skip }` computes, on a buffered input of any
capacity, exactly the count and the remainder that `StrInput` reads off its slice -/
theorem default_skip_while_is_span (p : Char → Bool) (hp : p '\x00' = false) (fuel n : Nat) (i j : In) (l : Nat)
    (h : SimIn i j) :
    AgreeR j (.ok (n + (In.spanWhile p i.iter).1, { i with iter := (In.spanWhile p i.iter).2, la := l }))
      (In.dfltSkipWhile p fuel n j) := dfltSkipWhile_agree p hp fuel n i j l h rfl

/-- the hypotheses are met by fresh inputs over the same text, for every capacity -/
example (t : Str) (cap : Nat) : SimIn (mkSc .str 128 t).inp (mkSc .buf cap t).inp :=
  ⟨rfl, rfl, fun _ => rfl⟩

/-- … and the statement is not vacuous: on `a: b` both sides answer `look_ch` with `'a'` -/
example : In.lookCh (mkSc .str 128 "a: b".toList).inp = .ok ('a', { (mkSc .str 128 "a: b".toList).inp with la := 1 })
    ∧ (∃ j', In.lookCh (mkSc .buf 16 "a: b".toList).inp = .ok ('a', j')) := ⟨rfl, ⟨_, rfl⟩⟩

/-- **What is proved about the string back-end holds on the character-iterator back-end.** For the scanner
    functions whose results are characterised by theorems on a string input — block scalars
    (`C05.literal_block_scalar_token`, `C05.folded_block_scalar_token`), quoted scalars
    (`C04.single_quoted_scalar_token`, `C09.quoted_string_rescans`), plain scalars (`C04.plain_scalar_line_token`),
    anchors and aliases (`C03.anchor_token_carries_name`) — a buffered state that sees the same text (`Sim`:
    every field equal, the inputs holding the same characters, whatever the buffer capacity and however much of
    the text has been pulled into it) delivers, whenever both runs complete, the very same token: same type,
    same text, same span. So the prescribed token is what the character-iterator back-end returns too. -/
theorem string_theorems_transfer (s t : Sc) (h : Sim s t) :
    (∀ lit sm a s' b t', scanBlockScalarBody lit sm s = .ok (a, s') → scanBlockScalarBody lit sm t = .ok (b, t') → a = b) ∧
    (∀ single a s' b t', scanFlowScalar single s = .ok (a, s') → scanFlowScalar single t = .ok (b, t') → a = b) ∧
    (∀ a s' b t', scanPlainScalarBody s = .ok (a, s') → scanPlainScalarBody t = .ok (b, t') → a = b) ∧
    (∀ alias a s' b t', scanAnchor alias s = .ok (a, s') → scanAnchor alias t = .ok (b, t') → a = b) :=
  ⟨fun lit sm _ _ _ _ h1 h2 => ((RelS.scanBlockScalarBody lit sm).val_eq h h1 h2).1,
   fun single _ _ _ _ h1 h2 => ((RelS.scanFlowScalar single).val_eq h h1 h2).1,
   fun _ _ _ _ h1 h2 => (RelS.scanPlainScalarBody.val_eq h h1 h2).1,
   fun alias _ _ _ _ h1 h2 => ((RelS.scanAnchor alias).val_eq h h1 h2).1⟩

/-- the hypothesis is met by a string state and its buffered twin over the same text, for every capacity -/
example (text : Str) (cap : Nat) : Sim (mkSc .str 128 text) (mkSc .buf cap text) :=
  ⟨⟨rfl, rfl, fun _ => rfl⟩, rfl⟩

end SaphyrModel.C10
