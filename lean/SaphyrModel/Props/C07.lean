import SaphyrModel.Load
/-! # C07 — Loaded documents mirror the event stream exactly (loader model)

`ETree` is an abstract node tree = a well-nested run of events; `flatten` gives its events,
`denote` its meaning, written independently of the loader: children in order, pairs inserted with
the hashlink `insert` semantics, an anchor bound when its node is complete, an alias replaced by a
copy of the anchored node (BadValue when the anchor is unknown or still open). The theorem: from
**any** loader state, feeding the events of a tree to the loader is the same as placing the tree's
denotation — for every tree, every nesting depth, marked or bare nodes, eager or lazy scalars. -/
namespace SaphyrModel.C07

inductive ETree
  | scalar (v : Str) (style : ScalarStyle) (aid : Nat) (tag : Option Tag) (sp : Span)
  | alias (id : Nat) (sp : Span)
  | seq (aid : Nat) (tag : Option Tag) (sp spEnd : Span) (items : List ETree)
  | map (aid : Nat) (tag : Option Tag) (sp spEnd : Span) (pairs : List (ETree × ETree))

mutual
def flatten : ETree → List (Event × Span)
  | .scalar v st a t sp => [(.scalar v st a t, sp)]
  | .alias i sp => [(.alias i, sp)]
  | .seq a t sp se items => (.sequenceStart a t, sp) :: (flattenList items ++ [(.sequenceEnd, se)])
  | .map a t sp se pairs => (.mappingStart a t, sp) :: (flattenPairs pairs ++ [(.mappingEnd, se)])
def flattenList : List ETree → List (Event × Span)
  | [] => []
  | t :: ts => flatten t ++ flattenList ts
def flattenPairs : List (ETree × ETree) → List (Event × Span)
  | [] => []
  | (k, v) :: ps => flatten k ++ flatten v ++ flattenPairs ps
end

abbrev Env := List (Nat × Node)
def bindAnchor (env : Env) (aid : Nat) (n : Node) : Env := if aid > 0 then anchorsInsert env aid n else env
def spanOf (c : LCfg) (sp : Span) : Span := if c.marked then sp else Span.dflt

-- the meaning of a tree, threading the anchor environment in document order
mutual
def denote (c : LCfg) (env : Env) : ETree → Node × Env
  | .scalar v st a t sp =>
    let n := Node.withSpan c.marked (scalarNode c.early v st t) sp
    (n, bindAnchor env a n)
  | .alias i sp => (Node.withSpan c.marked ((anchorsGet env i).getD (.bad Span.dflt)) sp, env)
  | .seq a _ sp _ items =>
    let r := denoteList c env items
    (.seq (spanOf c sp) r.1, bindAnchor r.2 a (.seq (spanOf c sp) r.1))
  | .map a _ sp _ pairs =>
    let r := denotePairs c env [] pairs
    (.map (spanOf c sp) r.1, bindAnchor r.2 a (.map (spanOf c sp) r.1))
def denoteList (c : LCfg) (env : Env) : List ETree → List Node × Env
  | [] => ([], env)
  | t :: ts =>
    let r1 := denote c env t
    let r2 := denoteList c r1.2 ts
    (r1.1 :: r2.1, r2.2)
def denotePairs (c : LCfg) (env : Env) (acc : List (Node × Node)) : List (ETree × ETree) → List (Node × Node) × Env
  | [] => (acc, env)
  | (k, v) :: ps =>
    let rk := denote c env k
    let rv := denote c rk.2 v
    denotePairs c rv.2 (mapInsert rk.1 rv.1 acc) ps
end

def aidOf : ETree → Nat
  | .scalar _ _ a _ _ => a | .alias _ _ => 0 | .seq a _ _ _ _ => a | .map a _ _ _ _ => a

/-- where a completed node goes: the root slot, the open sequence, or the open mapping (as pending
    key, or as the value of the pending key) -/
def place (s : LSt) (n : Node) (aid : Nat) : LRes :=
  match s.docStack with
  | [] => .ok { s with docStack := [(n, aid)] }
  | (.seq sp items, a) :: rest => .ok { s with docStack := (.seq sp (items ++ [n]), a) :: rest }
  | (.map sp m, a) :: rest =>
    match s.keyStack with
    | [] => .panic .keyStackLastUnwrap
    | none :: ks => .ok { s with keyStack := some n :: ks }
    | some k :: ks => .ok { s with docStack := (.map sp (mapInsert k n m), a) :: rest, keyStack := none :: ks }
  | _ :: _ => .ok s

theorem insertNewNode_eq (s : LSt) (n : Node) (aid : Nat) :
    insertNewNode s n aid = place { s with anchors := bindAnchor s.anchors aid n } n aid := by
  unfold insertNewNode place bindAnchor
  -- once `aid > 0` is decided the two sides are the same match, up to eta on the state
  split <;> rfl

theorem fold_append (c : LCfg) (s : LSt) (a b : List (Event × Span)) :
    foldEvents c s (a ++ b) = match foldEvents c s a with | .ok s' => foldEvents c s' b | .panic p => .panic p := by
  induction a generalizing s with
  | nil => simp [foldEvents]
  | cons e es ih =>
    obtain ⟨ev, sp⟩ := e
    simp only [List.cons_append, foldEvents]
    cases onEvent c s ev sp with
    | ok s' => exact ih s'
    | panic p => rfl

theorem foldEvents_one (c : LCfg) (s : LSt) (e : Event) (sp : Span) : foldEvents c s [(e, sp)] = onEvent c s e sp := by
  simp only [foldEvents]; cases onEvent c s e sp <;> rfl

theorem withSpan_seq (c : LCfg) (sp : Span) : Node.withSpan c.marked (.seq Span.dflt []) sp = .seq (spanOf c sp) [] := by
  unfold Node.withSpan spanOf; cases c.marked <;> simp
theorem withSpan_map (c : LCfg) (sp : Span) : Node.withSpan c.marked (.map Span.dflt []) sp = .map (spanOf c sp) [] := by
  unfold Node.withSpan spanOf; cases c.marked <;> simp

theorem bindAnchor_zero (env : Env) (n : Node) : bindAnchor env 0 n = env := by simp [bindAnchor]

mutual
/-- **C07, compositional form.** From any loader state, the events of a tree place its denotation. -/
theorem fold_tree (c : LCfg) (t : ETree) (s : LSt) :
    foldEvents c s (flatten t) =
      place { s with anchors := (denote c s.anchors t).2 } (denote c s.anchors t).1 (aidOf t) := by
  cases t with
  | scalar v st a tg sp => simp only [flatten, foldEvents_one, onEvent, insertNewNode_eq, denote, aidOf]
  | alias i sp => simp only [flatten, foldEvents_one, onEvent, insertNewNode_eq, denote, aidOf, bindAnchor_zero]
  | seq a tg sp se items =>
    simp only [flatten, foldEvents, onEvent, withSpan_seq]
    rw [fold_append, fold_list c items (hs := rfl)]
    simp only [foldEvents_one, onEvent, insertNewNode_eq, denote, aidOf, List.nil_append]
  | map a tg sp se pairs =>
    simp only [flatten, foldEvents, onEvent, withSpan_map]
    rw [fold_append, fold_pairs c pairs (hs := rfl) (hk := rfl)]
    simp only [foldEvents_one, onEvent, insertNewNode_eq, denote, aidOf]

theorem fold_list (c : LCfg) (ts : List ETree) (s : LSt) (spn : Span)
    (acc : List Node) (a : Nat) (rest : List (Node × Nat)) (hs : s.docStack = (.seq spn acc, a) :: rest) :
    foldEvents c s (flattenList ts) =
      .ok { s with docStack := (.seq spn (acc ++ (denoteList c s.anchors ts).1), a) :: rest,
                   anchors := (denoteList c s.anchors ts).2 } := by
  cases ts with
  | nil => simp [flattenList, foldEvents, denoteList, ← hs]
  | cons t ts =>
    simp only [flattenList]
    rw [fold_append, fold_tree c t s]
    simp only [place, hs]
    rw [fold_list c ts (hs := rfl)]
    simp [denoteList, List.append_assoc]

theorem fold_pairs (c : LCfg) (ps : List (ETree × ETree)) (s : LSt) (spn : Span)
    (acc : List (Node × Node)) (a : Nat) (rest : List (Node × Nat)) (ks : List (Option Node))
    (hs : s.docStack = (.map spn acc, a) :: rest) (hk : s.keyStack = none :: ks) :
    foldEvents c s (flattenPairs ps) =
      .ok { s with docStack := (.map spn (denotePairs c s.anchors acc ps).1, a) :: rest,
                   anchors := (denotePairs c s.anchors acc ps).2 } := by
  cases ps with
  | nil => simp [flattenPairs, foldEvents, denotePairs, ← hs]
  | cons p ps =>
    obtain ⟨k, v⟩ := p
    simp only [flattenPairs]
    rw [fold_append, fold_append, fold_tree c k s]
    simp only [place, hs, hk]
    rw [fold_tree c v]
    simp only [place]
    rw [fold_pairs c ps (hs := rfl) (hk := rfl)]
    simp [denotePairs]
end

/-- A whole document: `DocumentStart`, the events of a tree, `DocumentEnd` load exactly one
    document — the denotation of the tree — from a loader between documents. -/
theorem fold_document (c : LCfg) (t : ETree) (s : LSt) (b : Bool) (sp1 sp2 : Span)
    (hd : s.docStack = []) :
    foldEvents c s ((.documentStart b, sp1) :: (flatten t ++ [(.documentEnd, sp2)])) =
      .ok { s with docs := s.docs ++ [(denote c s.anchors t).1], docStack := [],
                   anchors := (denote c s.anchors t).2 } := by
  simp only [foldEvents, onEvent]
  rw [fold_append, fold_tree]
  simp [place, hd, foldEvents, onEvent]

end SaphyrModel.C07
