import SaphyrModel.Sc.Scan1
import SaphyrModel.Api
/-! # C11 — Nesting depth cannot crash the process (what a model can say)

The model exhibits recursion *depth*, not stack bytes. The pull parser, the push interface
(`loadNodeLoop`, a loop with a depth counter) and the loader (explicit stacks) are not recursive in
the nesting depth by construction of the model: each is a function that is structurally recursive
on its fuel only. What is proved: flow nesting is bounded by 255 in the scanner, and the push
loop's depth counter is exactly the number of open collections. Stack bytes per frame of the real
code (drop glue, emitter) are measured by the harness in a child process. -/
namespace SaphyrModel.C11
open SaphyrModel.Sc

/-- Flow collections cannot nest deeper than 255: opening one more at level 255 is an error value,
    and a successful open leaves the level at most 255. -/
theorem flow_depth_bounded (s : Sc) (hs : s.flowLevel ≤ 255) :
    match increaseFlowLevel s with
    | .ok (_, s') => s'.flowLevel = s.flowLevel + 1 ∧ s'.flowLevel ≤ 255
    | .err _ => s.flowLevel = 255
    | .panic _ => False := by
  unfold increaseFlowLevel
  simp only [Bind.bind, Sc.modS, Sc.getS]
  by_cases h : s.flowLevel ≥ 255
  · simp [h, Sc.err, throwE]; omega
  · simp only [h, ↓reduceIte, Sc.modS]
    exact ⟨trivial, by show s.flowLevel + 1 ≤ 255; omega⟩

/-- nesting effect of an event: +1 for a collection start, −1 for a collection end, 0 otherwise -/
def depthEffect : Event → Int
  | .sequenceStart .. | .mappingStart .. => 1
  | .sequenceEnd | .mappingEnd => -1
  | _ => 0

theorem pull_out (s s1 : Push) (e : Ev) (h : s.pull = .ok (e, s1)) : s1.out = s.out := by
  unfold Push.pull at h
  cases hn : nextImpl s.api with
  | ok r => obtain ⟨v, a⟩ := r; simp [hn] at h; rw [← h.2]
  | err x => simp [hn] at h
  | panic x => simp [hn] at h

/-- one round of the node loop that ends well: either it stops after forwarding `e`, which brought the depth to
    zero, or it goes on at the depth `e` leaves -/
theorem loadNodeLoop_step {n d : Nat} {s s1 s' : Push} {e : Ev} (hp : s.pull = .ok (e, s1))
    (h : loadNodeLoop (n + 1) d s = .ok s') :
    (s' = s1.recv e ∧ (d : Int) + depthEffect e.1 = 0) ∨
    ∃ d', loadNodeLoop n d' (s1.recv e) = .ok s' ∧ (d : Int) + depthEffect e.1 = d' := by
  unfold loadNodeLoop at h
  simp only [hp] at h
  cases he : e.1 <;> simp only [he] at h <;> simp only [depthEffect]
  case sequenceStart | mappingStart => exact .inr ⟨d + 1, h, by omega⟩
  case sequenceEnd | mappingEnd =>
    split at h
    · cases h
    split at h
    · exact .inl ⟨(Res.ok.inj h).symm, by omega⟩
    · exact .inr ⟨d - 1, h, by omega⟩
  case alias | scalar =>
    split at h
    · exact .inl ⟨(Res.ok.inj h).symm, by omega⟩
    · exact .inr ⟨d, h, by omega⟩
  all_goals cases h

/-- The push interface forwards events until the open-collection count returns to zero: when the
    node loop started at depth `d` succeeds, it has delivered a non-empty run of events whose total
    nesting effect is `-d` — for `d = 0`, exactly one complete node, however deeply nested. The
    loop is structurally recursive on its fuel, not on the nesting depth. -/
theorem push_loop_balanced (fuel d : Nat) (s s' : Push) (h : loadNodeLoop fuel d s = .ok s') :
    ∃ evs : List Ev, evs ≠ [] ∧ s'.out = evs.reverse ++ s.out ∧
      (d : Int) + (evs.map (fun e => depthEffect e.1)).sum = 0 := by
  induction fuel generalizing d s with
  | zero => simp [loadNodeLoop] at h
  | succ n ih =>
    cases hp : s.pull with
    | err x => simp [loadNodeLoop, hp] at h
    | panic x => simp [loadNodeLoop, hp] at h
    | ok r =>
      obtain ⟨e, s1⟩ := r
      have ho := pull_out s s1 e hp
      rcases loadNodeLoop_step hp h with ⟨rfl, hd⟩ | ⟨d', hl, hd⟩
      · exact ⟨[e], by simp, by simp [Push.recv, ho], by simpa using hd⟩
      · obtain ⟨evs, _, hout, hsum⟩ := ih d' (s1.recv e) hl
        refine ⟨e :: evs, by simp, by simp [hout, Push.recv, ho], ?_⟩
        simp only [List.map_cons, List.sum_cons]; omega

end SaphyrModel.C11
