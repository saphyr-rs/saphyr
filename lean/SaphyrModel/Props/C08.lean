import SaphyrModel.Load
import SaphyrModel.Props.C09
import SaphyrModel.Proofs.FloatParse
/-! # C08 — Scalar typing follows the YAML 1.2 core schema

`parseWithMeta` is the model of `Scalar::parse_from_cow_and_metadata`, `parseFromCow` of
`Scalar::parse_from_cow`; `Spec.core*` are the recognisers of the core schema. Proved here, for every
text: the style/tag dispatch; soundness of every reading (`C08_sound : C08_full` — null, boolean,
integer, float and string results are exactly what the core schema assigns); completeness for integers
within 64 bits (`int_complete`). The decimal denotation of a float (sign, digits, exponent) is what
is compared; the rounding of `f64::from_str` to binary64 is outside the model. -/
namespace SaphyrModel.C08
open ProtoR Spec

/-- the untagged-plain part of the property, soundness direction (completeness: `int_complete`, integers only).
    The second disjunct of the float clause is never used: `float_sound` -/
def C08_full : Prop :=
  ∀ v : Str,
    (parseFromCow v = .null → coreNull v = true) ∧
    (∀ b, parseFromCow v = .bool b → coreBool v = some b) ∧
    (∀ i, parseFromCow v = .int i → coreInt v = some i) ∧
    (∀ f, parseFromCow v = .float f → coreFloat v = some f ∨ ∃ i, coreInt v = some i) ∧
    (∀ t, parseFromCow v = .string t → t = v)

/-- every quoted or block scalar loads as a string with identical content, whatever its tag -/
theorem nonplain_is_string (v : Str) (style : ScalarStyle) (tag : Option Tag) (h : style ≠ .plain) :
    parseWithMeta v style tag = some (.string v) := by
  unfold parseWithMeta
  simp [h]

/-- an untagged plain scalar never becomes BadValue -/
theorem untagged_never_bad (v : Str) : ∃ s, parseWithMeta v .plain none = some s := by
  unfold parseWithMeta; simp

/-- a tag that is not a core-schema tag leaves a string -/
theorem foreign_tag_is_string (v : Str) (t : Tag) (h : t.handle ≠ coreHandle) :
    parseWithMeta v .plain (some t) = some (.string v) := by
  unfold parseWithMeta
  simp [h]

/-- `!!str` leaves a string -/
theorem str_tag_is_string (v : Str) :
    parseWithMeta v .plain (some ⟨coreHandle, "str".toList⟩) = some (.string v) := by
  unfold parseWithMeta
  simp

/-- under `!!int`, `!!float`, `!!bool`, `!!null` the result is a value of exactly that type or
    BadValue (`none`), never another type; any other core suffix leaves the string -/
theorem core_tag_type (v : Str) (sfx : Str) :
    match parseWithMeta v .plain (some ⟨coreHandle, sfx⟩) with
    | none => True
    | some (.int _) => sfx = "int".toList
    | some (.float _) => sfx = "float".toList
    | some (.bool _) => sfx = "bool".toList
    | some .null => sfx = "null".toList
    | some (.string s) => s = v := by
  unfold parseWithMeta
  simp only [bne_self_eq_false, Bool.false_eq_true, ↓reduceIte, beq_self_eq_true, beq_iff_eq]
  -- go down the suffix tests: the branch taken builds its value with the constructor of that type, or gives `none`
  by_cases h1 : sfx = "bool".toList
  · rw [if_pos h1]
    by_cases ht : v = "true".toList
    · rw [if_pos ht]; exact h1
    rw [if_neg ht]
    by_cases hf : v = "false".toList
    · rw [if_pos hf]; exact h1
    · rw [if_neg hf]; trivial
  rw [if_neg h1]
  by_cases h2 : sfx = "int".toList
  · rw [if_pos h2]
    cases fromStrRadix v 10 with | none => trivial | some _ => exact h2
  rw [if_neg h2]
  by_cases h3 : sfx = "float".toList
  · rw [if_pos h3]
    cases parseF64Yaml v with | none => trivial | some _ => exact h3
  rw [if_neg h3]
  by_cases h4 : sfx = "null".toList
  · rw [if_pos h4]
    by_cases hn : (v == ['~'] || v == "null".toList) = true
    · rw [if_pos hn]; exact h4
    · rw [if_neg hn]; trivial
  rw [if_neg h4]

/-- `true`/`false` and `null`/`~` are always accepted under their own tag -/
theorem own_tag_accepts :
    parseWithMeta "true".toList .plain (some ⟨coreHandle, "bool".toList⟩) = some (.bool true) ∧
    parseWithMeta "false".toList .plain (some ⟨coreHandle, "bool".toList⟩) = some (.bool false) ∧
    parseWithMeta "null".toList .plain (some ⟨coreHandle, "null".toList⟩) = some .null ∧
    parseWithMeta "~".toList .plain (some ⟨coreHandle, "null".toList⟩) = some .null := by
  decide +kernel

/-- an untagged plain scalar loads as null only if its text is a core-schema null -/
theorem null_sound (v : ProtoR.Str) (h : parseFromCow v = .null) : coreNull v = true := by
  rcases IntParse.parseFromCow_cases v h with hs | hs | hs <;> simp [coreNull, hs]
/-- … as a boolean only if its text is that core-schema boolean -/
theorem bool_sound (v : ProtoR.Str) (b : Bool) (h : parseFromCow v = .bool b) : coreBool v = some b := by
  have hs := IntParse.parseFromCow_cases v h
  cases b <;> simp [coreBool, hs]

/-- the string clause of `C08_full` -/
theorem string_is_identical (v t : Str) (h : parseFromCow v = .string t) : t = v :=
  C09.parseFromCow_string v t h

/-- **Integer soundness**: an untagged plain scalar loads as an integer only if its text is a core-schema
    integer literal (`[-+]?[0-9]+`, `0o[0-7]+`, `0x[0-9a-fA-F]+`), and then with exactly the denoted value -/
theorem int_sound (v : Str) (i : Int) (h : parseFromCow v = .int i) : coreInt v = some i :=
  IntParse.int_sound v i h

/-- **Integer completeness**: every decimal, `0x` and `0o` integer literal whose value fits in 64 bits
    is recognised, with its value -/
theorem int_complete (v : Str) (i : Int) (h : coreInt v = some i)
    (hlo : -9223372036854775808 ≤ i) (hhi : i ≤ 9223372036854775807) : parseFromCow v = .int i :=
  IntParse.int_complete v i h hlo hhi

/-- **Float soundness**: an untagged plain scalar loads as a float only if its text is a core-schema
    float literal (decimal or exponent notation, `.inf`/`.nan` spellings), with the denoted decimal value -/
theorem float_sound (v : Str) (f : FloatDen) (h : parseFromCow v = .float f) : coreFloat v = some f :=
  FloatParse.parseF64Yaml_sound v f (IntParse.parseFromCow_cases v h)

/-- the decimal grammar `f64::from_str` accepts, restricted to the bytes `parse_f64` lets through, is the
    core schema's float grammar, value for value -/
theorem float_grammar_is_core (s : Str) (h : s.all floatByte = true) : parseF64 s = coreDecFloat s :=
  FloatParse.parseF64_eq_core s h

/-- **Scalar typing is sound, for every text**: whatever an untagged plain scalar loads as — null, boolean,
    integer, float or string — is what the YAML 1.2 core schema assigns to its text. -/
theorem C08_sound : C08_full := by
  intro v
  exact ⟨null_sound v, fun b => bool_sound v b, fun i => int_sound v i,
    fun f h => Or.inl (float_sound v f h), string_is_identical v⟩

/-- non-vacuity: the schema's recogniser and the resolver on concrete integer literals (hexadecimal, decimal,
    octal) -/
example : parseFromCow "0x1F".toList = .int 31 ∧ coreInt "0x1F".toList = some 31 ∧
    parseFromCow "-12".toList = .int (-12) ∧ coreInt "0o17".toList = some 15 := by decide +kernel

end SaphyrModel.C08
