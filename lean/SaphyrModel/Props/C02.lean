import SaphyrModel.Proofs.Run
import SaphyrModel.Proofs.AnchorsStep
import SaphyrModel.Pipeline
/-! # C02 — Events always form a well-nested YAML event sentence

The grammar of event sentences is the automaton `gStep`/`gRun` of
`SaphyrModel/Grammar.lean`; `IsPrefix`/`IsSentence` below are its acceptance conditions. -/
namespace SaphyrModel.C02

/-- `evs` is a prefix of a well-nested event sentence -/
def IsPrefix (evs : List Event) : Prop := (gRun ⟨0, []⟩ evs).isSome
/-- `evs` is a whole sentence: StreamStart, documents, StreamEnd, and nothing after -/
def IsSentence (evs : List Event) : Prop := gRun ⟨0, []⟩ evs = some ⟨2, []⟩

/-- The grammar part of C02 at full strength, for **every token sequence** (hence for every input
    and every input back-end: the scanner's output is a token sequence), every latched scanner
    error, both settings of `keep_tags` and every amount of fuel: the events delivered by the
    iterator up to the first error are a prefix of a sentence; without an error they are a whole
    sentence; the parser never reaches one of its panic sites. -/
def C02_grammar_full : Prop :=
  ∀ (toks : List Token) (scanErr : Option ScanError) (eof : Marker) (keep : Bool) (fuel : Nat),
    let r := iterate fuel (Api.init (PState.init toks scanErr eof keep)) []
    IsPrefix (r.1.map (·.1)) ∧
    (r.2 = none → IsSentence (r.1.map (·.1))) ∧
    (∀ x, r.2 = some (.panic x) → x = .fuel)

theorem C02_grammar : C02_grammar_full := by
  intro toks scanErr eof keep fuel
  obtain ⟨g', hrun, hpan, hdone⟩ := iterate_sound fuel _ _ (IterInv.init toks scanErr eof keep)
  refine ⟨by simp [IsPrefix, hrun], ?_, hpan⟩
  intro hn
  simp [IsSentence, hrun, hdone hn]

/-- The anchor clause of C02 at full strength, for every token sequence: reading the delivered
    events in order with a counter that starts at 1, every anchored node carries exactly the
    counter's value (so ids are positive, handed out as 1, 2, 3, … and never shared) and every
    alias carries a positive id below the counter (an id handed out earlier in the stream). -/
def C02_anchors_full : Prop :=
  ∀ (toks : List Token) (scanErr : Option ScanError) (eof : Marker) (keep : Bool) (fuel : Nat),
    ∃ n, aRun 1 ((iterate fuel (Api.init (PState.init toks scanErr eof keep)) []).1.map (·.1)) = some n

theorem C02_anchors : C02_anchors_full := by
  intro toks scanErr eof keep fuel
  exact iterate_anchors fuel (Api.init (PState.init toks scanErr eof keep)) rfl
    ⟨by simp [Api.init, PState.init], by simp [Api.init, PState.init]⟩

theorem _root_.SaphyrModel.Pipeline.events_none {k : Sc.InKind} {cap : Nat} {keep : Bool} {text : Str}
    (h : Pipeline.events k cap keep text = none) : ∃ p, (Pipeline.scanText k cap text).2.1 = .panic p := by
  unfold Pipeline.events Pipeline.parserOf at h
  split at h
  · rename_i p _ hs; exact ⟨p, by rw [hs]⟩
  · simp at h
  · simp at h

/-- the fuel of the iteration is what `C01.parser_terminates` asks for -/
theorem _root_.SaphyrModel.Pipeline.events_some {k : Sc.InKind} {cap : Nat} {keep : Bool} {text : Str}
    {r : List Ev × Option (Res Unit)} (h : Pipeline.events k cap keep text = some r) :
    ∃ toks scanErr eof, r = iterate (16 * toks.length + 3) (Api.init (PState.init toks scanErr eof keep)) [] := by
  unfold Pipeline.events Pipeline.parserOf at h
  split at h
  · simp at h
  · rename_i toks s' _; exact ⟨toks, none, s'.mark, (Option.some.inj h).symm⟩
  · rename_i toks e s' _; exact ⟨toks, some e, s'.mark, (Option.some.inj h).symm⟩

/-- **End to end, for every input.** For every character sequence, input back-end, capacity and
    `keep_tags` setting: if the scanner model does not stop at a panic site (it never does on a
    string input apart from fuel: `C01.scanner_str_no_panic`), the events the pipeline
    `characters → scanner → parser` delivers are a prefix of a well-nested sentence, a whole
    sentence when no error is reported, and the parser reaches none of its panic sites. -/
theorem C02_end_to_end (k : Sc.InKind) (cap : Nat) (keep : Bool) (text : Str)
    (r : List Ev × Option (Res Unit)) (h : Pipeline.events k cap keep text = some r) :
    IsPrefix (r.1.map (·.1)) ∧ (r.2 = none → IsSentence (r.1.map (·.1))) ∧
      (∀ x, r.2 = some (.panic x) → x = .fuel) := by
  obtain ⟨toks, scanErr, eof, rfl⟩ := Pipeline.events_some h
  exact C02_grammar _ _ _ _ _

/-- one step, any state reachable or not: a parser state related to a grammar configuration steps
    to a related one, emitting an event the grammar accepts; `pop_state().unwrap()` is safe -/
theorem C02_one_step {p : PState} {g : G} (h : R p g) (hne : p.state ≠ .end) :
    Good g (parseStep p) := parseStep_good h hne

/-- the premise `r.2 = none` of the sentence clause can hold: a concrete token stream for `[a]` runs to the end
    without an error -/
example :
    let sp : Span := ⟨⟨0, 1, 0⟩, ⟨0, 1, 0⟩⟩
    let toks : List Token := [⟨sp, .streamStart⟩, ⟨sp, .flowSequenceStart⟩, ⟨sp, .scalar .plain ['a']⟩,
      ⟨sp, .flowSequenceEnd⟩, ⟨sp, .streamEnd⟩]
    let r := iterate 20 (Api.init (PState.init toks none ⟨3, 1, 3⟩ false)) []
    r.2 = none ∧ r.1.length = 7 := by decide

end SaphyrModel.C02
