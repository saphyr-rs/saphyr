import SaphyrModel.Proofs.TokDocs
import SaphyrModel.Proofs.AnchorTok
/-! # C03 — Block and flow structure parses to the denoted tree (parser-level component theorems)

The structural content of C03 at full strength (`parse (render ℓ t) = flatten t` for every layout)
is not proved end to end: the scanner half (characters → tokens for every layout) rests on the
correspondence and the renderer oracle. The parser half **is** proved, for every tree:
`tokens_parse_to_tree` / `node_tokens_parse` say that the token language of nested block and flow
collections (any depth, any mixture of block-in-block, flow-in-block, flow-in-flow) is parsed to
exactly the events the tree denotes. Also proved, for every parser state: nodes the syntax leaves out are delivered as
the null scalar `~`, and the single-pair flow-mapping forms with an explicit empty key
(`[ ? : b ]`, `[ ? ]`, `[ ? , a ]`) deliver `~` for the key **without consuming** the token that
follows — which is what makes the value state see its `:` / `,` / `]`. At scanner level only anchors and aliases
are covered (`anchor_token_carries_name`, string input). -/
namespace SaphyrModel.C03

/-- the event for a node the syntax leaves out: plain scalar `~`, no anchor, no tag -/
theorem omitted_node_is_null : emptyScalar = .scalar ['~'] .plain 0 none := rfl

/-- `[ ? : b ]`, `[ ? , a ]`, `[ ? ]`: the empty key is reported as `~` and the next token is left
    for the value state -/
theorem empty_key_leaves_token (p : PState) (t : Token) (rest : List Token) (hp : p.toks = t :: rest)
    (ht : t.ty = .value ∨ t.ty = .flowEntry ∨ t.ty = .flowSequenceEnd) :
    flowSequenceEntryMappingKey p =
      .ok (emptyScalar, t.span, { p with state := .flowSequenceEntryMappingValue }) := by
  unfold flowSequenceEntryMappingKey
  simp only [peekTok, hp, Bind.bind]
  rcases ht with h | h | h <;> simp [h]

/-- … and the value state, finding `,` or `]` instead of `:`, reports `~` for the value, again without consuming
    the token -/
theorem empty_value_is_null (p : PState) (t : Token) (rest : List Token) (hp : p.toks = t :: rest)
    (ht : t.ty = .flowEntry ∨ t.ty = .flowSequenceEnd) :
    flowSequenceEntryMappingValue p =
      .ok (emptyScalar, t.span, { p with state := .flowSequenceEntryMappingEnd t.span.stop }) := by
  unfold flowSequenceEntryMappingValue
  simp only [peekTok, hp, Bind.bind]
  rcases ht with h | h <;> simp [h]

/-- a block mapping key with nothing after `:` (next token is a key, a value indicator or the end of
    the block) has the null scalar as its value -/
theorem block_value_omitted (p : PState) (t t2 : Token) (rest : List Token) (hp : p.toks = t :: t2 :: rest)
    (ht : t.ty = .value) (h2 : t2.ty = .key ∨ t2.ty = .value ∨ t2.ty = .blockEnd) :
    blockMappingValue p = .ok (emptyScalar, t2.span, { skipTok p with state := .blockMappingKey }) := by
  unfold blockMappingValue
  simp only [peekTok, hp, Bind.bind, ht, skipTok, List.tail_cons]
  rcases h2 with h | h | h <;> simp [h]

open TokTree in
/-- **Every tree's tokens parse to that tree (whole stream).** For every well-formed token tree — block
    sequences and mappings, flow sequences and mappings, scalars of every style, nested to any depth,
    with arbitrary spans on every token — a fresh parser over the one-document stream presenting it
    emits StreamStart, DocumentStart, exactly the events the tree denotes (each collection's items and
    pairs in order, properly bracketed), DocumentEnd, StreamEnd, without error or panic, consuming all
    tokens. -/
theorem tokens_parse_to_tree (t : TT) (hw : t.wf = true) (ss se : Span) (eof : Marker) (keep : Bool) :
    ∃ sp pf, steps (t.events.length + 4) (PState.init (streamToks ss se t) none eof keep) =
        .ok ((.streamStart, ss) :: (.documentStart false, sp) :: (t.events ++ [(.documentEnd, se), (.streamEnd, se)]), pf) ∧
      pf.state = .end ∧ pf.toks = [] :=
  stream_parses t hw ss se eof keep

open TokTree in
/-- the compositional form: wherever the state machine calls `parse_node` in front of a tree's tokens
    (as a sequence entry, a key, a value, a document root), it emits that tree's events, returns to
    the continuation state in front of the remaining tokens, and changes nothing else (no anchors,
    no tags, no leftover state) — in block context for every tree, in flow context for flow trees -/
theorem node_tokens_parse (t : TT) (hw : t.wf = true) (b : Bool) (hb : b = true ∨ t.flowOnly = true) :
    Parses t b := TT.parses t hw b hb

open TokTree in
/-- non-vacuity: `- [a, {k: v}]`-shaped tokens are a well-formed tree with 9 events -/
example :
    let sp : Span := ⟨⟨0, 1, 0⟩, ⟨0, 1, 0⟩⟩
    let t : TT := .blockSeq sp sp (.cons sp (.flowSeq sp sp (.cons sp (.scalar sp .plain ['a'])
      (.cons sp (.flowMap sp sp (.cons sp sp (.scalar sp .plain ['k']) sp (.scalar sp .plain ['v']) .nil)) .nil))) .nil)
    t.wf = true ∧ t.events.length = 9 ∧ t.toks.length = 13 := by decide

open SaphyrModel.Sc SaphyrModel.C03A in
/-- **Anchors and aliases carry exactly their names (scanner level) — for every name.** On a string input the
    scanner stands at `&` (`alias = false`) or `*` (`alias = true`), followed by a non-empty name made of anchor
    characters — anything but blanks, line breaks, NUL, the byte-order mark and the flow indicators `,[]{}`; so
    `:`, `-`, `#`, quotes, non-ASCII text are all part of the name — and then a character that ends it (or the end
    of the input). Unless the model stops at a panic site (the first disjunct, `∃ p, … = .panic p`: any site, the
    name loop running out of fuel among them), the token returned is an anchor (alias) token with exactly that name;
    it starts at the indicator and ends right after the name, on the same line. With the parser theorem
    `C02.C02_anchors` (anchored nodes get the ids 1, 2, 3, … in event order; an alias event carries an id handed
    out before it) this is what "anchor links" in C03 rests on; that an alias gets the id of the latest anchor
    of its name is not proved. -/
theorem anchor_token_carries_name (alias : Bool) (ind : Char) (name tl : Str) (hne : name ≠ [])
    (hn : ∀ c ∈ name, isAnchorChar c = true) (htl : isAnchorChar (tl.headD '\x00') = false)
    (u : Sc) (hk : u.inp.kind = .str) (hi : u.inp.iter = ind :: (name ++ tl)) :
    (∃ p, scanAnchor alias u = .panic p) ∨
    ∃ tok u', scanAnchor alias u = .ok (tok, u') ∧
      tok.ty = (if alias then TokenType.alias name else TokenType.anchor name) ∧
      tok.span.start = u.mark ∧ tok.span.stop = u'.mark ∧ u'.inp.iter = tl ∧
      u'.mark.line = u.mark.line ∧ u'.mark.col = u.mark.col + 1 + name.length ∧
      u'.mark.index = u.mark.index + 1 + name.length := by
  refine (anchor_token alias ind name tl hne hn htl u _ _ _ _ ⟨hk, hi, rfl, rfl, rfl, rfl⟩).mono
    fun tok u' ⟨h1, h2, h3, h4⟩ => ⟨h1, h2, h3, h4.iter, h4.line, h4.col, ?_⟩
  have := h4.off
  simp only [List.length_cons, List.length_append] at this
  omega

open SaphyrModel.Sc in
/-- non-vacuity: `&a:b-1 ` gives the anchor `a:b-1`; `*é,` gives the alias `é` -/
example :
    (match scanAnchor false { mkSc .str 0 ['&','a',':','b','-','1',' ','x'] with mark := ⟨2, 1, 2⟩ },
           scanAnchor true { mkSc .str 0 ['*','é',',',' '] with mark := ⟨2, 1, 2⟩ } with
     | .ok (t1, _), .ok (t2, _) => decide (t1.ty = TokenType.anchor ['a',':','b','-','1']) && decide (t2.ty = TokenType.alias ['é']) &&
         t1.span.stop.col == 8
     | _, _ => false) = true := by decide +kernel

end SaphyrModel.C03
