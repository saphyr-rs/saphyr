import SaphyrModel.Proofs.ParserSteps
import SaphyrModel.Proofs.TokDocs
import SaphyrModel.Proofs.Unwind
/-! # C15 — Documents are parsed independently (component theorems, parser level)

What carries over from one document to the next in the parser is its tag table and its anchor
table. Of the scanner-state part of C15 the block state is covered: `document_marker_closes_all_blocks` — whatever
block structure is open, a document marker leaves indentation −1, an empty indent stack and no simple key
allowed, having emitted exactly the `BlockEnd`s owed (`unroll_indent_closed_form`). Flow level and
implicit-mapping state at a marker are not covered by a theorem; the check's oracle compares
A ++ "...\n" ++ B with A and B. -/
namespace SaphyrModel.C15

/-- When a document ends (whichever way: explicit marker or not), the anchor table is empty and,
    unless `keep_tags` is set, so is the tag table: nothing declared in a document survives it. -/
theorem document_end_clears (p : PState) (ev : Event) (sp : Span) (p' : PState)
    (h : documentEnd p = .ok (ev, sp, p')) :
    p'.anchors = [] ∧ (p.keepTags = false → p'.tags = []) ∧ ev = .documentEnd :=
  (documentEnd_clears p).ok h

open TokTree in
/-- **Documents are parsed independently (parser half).** Let `A` and `B` be lists of documents given as
    tokens (each document: optional `---`, a node tree of block/flow collections and scalars, optional
    `...`) such that `A ++ B` is legal from the start of a stream (`legal`: every tree is well-formed, and a
    document without `---` comes first or follows a document closed by `...`). Then the token stream of `A`
    followed by `B` parses, from a fresh parser, to StreamStart, the events of `A`'s documents, the events of
    `B`'s documents, StreamEnd: the parser handles every document from a state that carries nothing of its
    predecessors but the token position (`TokTree.doc_parses` is applied to each document in turn,
    whatever base state the previous ones left). No indentation, flow or key state exists at this
    level; `%TAG`/anchors are covered by `document_end_clears`. -/
theorem documents_parse_independently (A B : List Doc) (hl : legal true (A ++ B) = true)
    (ss se : Span) (eof : Marker) (keep : Bool) :
    ∃ ea eb pf, steps (docsSteps (A ++ B) + 2)
        (PState.init (⟨ss, .streamStart⟩ :: (docsToks (A ++ B) ++ [⟨se, .streamEnd⟩])) none eof keep) =
        .ok ((.streamStart, ss) :: ((ea ++ eb) ++ [(.streamEnd, se)]), pf) ∧
      DocsEvents A ea ∧ DocsEvents B eb ∧ pf.state = .end := by
  obtain ⟨evs, pf, h, hev, hend⟩ := stream_docs_parse (A ++ B) hl ss se eof keep
  obtain ⟨ea, eb, rfl, ha, hb⟩ := DocsEvents.split A hev
  exact ⟨ea, eb, pf, h, ha, hb, hend⟩

open TokTree in
/-- … and each of the two parts, parsed as a stream of its own, gives events of the same shape -/
theorem documents_parse_alone (A : List Doc) (hl : legal true A = true) (ss se : Span) (eof : Marker) (keep : Bool) :
    ∃ ea pf, steps (docsSteps A + 2)
        (PState.init (⟨ss, .streamStart⟩ :: (docsToks A ++ [⟨se, .streamEnd⟩])) none eof keep) =
        .ok ((.streamStart, ss) :: (ea ++ [(.streamEnd, se)]), pf) ∧ DocsEvents A ea ∧ pf.state = .end :=
  stream_docs_parse A hl ss se eof keep

open SaphyrModel.Sc in
/-- **`unroll_indent(-1)` in closed form**: from any state with a well-formed indent stack (the scanner's
    structural invariant `Inv.ind`, preserved by every scanner function — C01) outside flow collections, the
    stack is emptied, the indentation set to −1, and one `BlockEnd` appended per level that owed one; no other
    field of the scanner state changes. -/
theorem unroll_indent_closed_form (s : Sc) (hw : WFInd s.indent s.indents) (hfl : s.flowLevel = 0) :
    unrollIndent (-1) s =
      .ok ((), { s with indent := -1, indents := [], tokens := s.tokens ++ blockEnds s.mark s.indents }) := by
  have h0 : ¬ (s.flowLevel > 0) := by omega
  unfold unrollIndent
  simp only [Bind.bind, getS, h0, ↓reduceIte]
  exact unrollGo_all _ s hw (by omega)

open SaphyrModel.Sc in
/-- **No indentation state survives a document marker.** Whatever block collections are open when `---` or
    `...` is fetched — any well-formed indent stack of any depth — afterwards the scanner's indentation is −1,
    its indent stack is empty, a simple key may not start, and what it has emitted is exactly one `BlockEnd` per
    open level that owed one, then the marker: the next document starts from the block state of a fresh scanner. -/
theorem document_marker_closes_all_blocks (t : TokenType) (s : Sc) (hw : WFInd s.indent s.indents) (hfl : s.flowLevel = 0) :
    match fetchDocumentIndicator t s with
    | .ok (_, s') => s'.indent = -1 ∧ s'.indents = [] ∧ s'.simpleKeyAllowed = false ∧ s'.flowLevel = 0 ∧
        ∃ sp, s'.tokens = s.tokens ++ blockEnds s.mark s.indents ++ [⟨sp, t⟩]
    | _ => True := by
  unfold fetchDocumentIndicator
  rw [bind_ok (unroll_indent_closed_form s hw hfl)]
  rcases removeSimpleKey_bind _ _ with ⟨e, h⟩ | ⟨p, h⟩ | ⟨ks, h⟩ <;> rw [h]
  · trivial
  · trivial
  simp only [disallowSimpleKey, skipNNonBlank, Bind.bind, getMark, modS, pushTok, advance, liftI]
  cases In.skipN 3 s.inp <;> simp [hfl]

open SaphyrModel.Sc in
/-- non-vacuity: two open block levels (a mapping at column 0 holding a sequence at column 2), `---` ahead -/
example :
    let s : Sc := { mkSc .str 0 ['-','-','-','\n'] with indent := 2, indents := [⟨0, true⟩, ⟨-1, true⟩], simpleKeys := [⟨false, false, 0, ⟨0,1,0⟩⟩] }
    WFInd s.indent s.indents ∧ s.flowLevel = 0 ∧
    (match fetchDocumentIndicator .documentStart s with
     | .ok (_, s') => s'.tokens.map (·.ty) == [.blockEnd, .blockEnd, .documentStart] && s'.indent == -1
     | _ => false) = true := by
  refine ⟨by simp [WFInd], rfl, by decide +kernel⟩

open SaphyrModel.Sc in
/-- **… and so does the end of the stream**: whatever block collections are open when the input ends, `StreamEnd`
    is preceded by exactly one `BlockEnd` per open level that owed one, and the scanner is back at indentation −1
    with an empty indent stack. -/
theorem stream_end_closes_all_blocks (s : Sc) (hw : WFInd s.indent s.indents) (hfl : s.flowLevel = 0) :
    match fetchStreamEnd s with
    | .ok (_, s') => s'.indent = -1 ∧ s'.indents = [] ∧
        ∃ m, s'.tokens = s.tokens ++ blockEnds m s.indents ++ [⟨Span.empty m, .streamEnd⟩]
    | _ => True := by
  unfold fetchStreamEnd
  -- the first step moves the mark to the start of the next line, or does nothing
  obtain ⟨m, hm⟩ : ∃ m, (modS fun s => if s.mark.col != 0 then { s with mark := ⟨s.mark.index, s.mark.line + 1, 0⟩ } else s) s =
      .ok ((), { s with mark := m }) := by simp only [modS]; split <;> exact ⟨_, rfl⟩
  rw [bind_ok hm, bind_ok (rfl : getS _ = .ok _)]
  by_cases hany : (s.simpleKeys.any fun sk => sk.required && sk.possible) = true
  · simp [hany, err, throwE, Bind.bind]
  rw [if_neg hany, bind_ok (rfl : (Pure.pure () : S Unit) _ = .ok _), bind_ok (rfl : modS clearPossibleKeys _ = .ok _),
    bind_ok (unroll_indent_closed_form (clearPossibleKeys { s with mark := m }) hw hfl)]
  rcases removeSimpleKey_bind _ _ with ⟨e, h⟩ | ⟨p, h⟩ | ⟨ks, h⟩ <;> rw [h]
  · trivial
  · trivial
  exact ⟨rfl, rfl, m, rfl⟩

end SaphyrModel.C15
