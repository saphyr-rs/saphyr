-- Root of the `SaphyrModel` library: executable model, specifications, proofs and property theorems.
import SaphyrModel.Parser
import SaphyrModel.Parser2
import SaphyrModel.Grammar
import SaphyrModel.Sim
import SaphyrModel.Api
import SaphyrModel.Pipeline
import SaphyrModel.Load
import SaphyrModel.Lookup
import SaphyrModel.Encoding
import SaphyrModel.Loader
import SaphyrModel.Resolve
import SaphyrModel.Emitter
import SaphyrModel.Sc.Basic
import SaphyrModel.Sc.State
import SaphyrModel.Sc.Scan1
import SaphyrModel.Sc.Scan2
import SaphyrModel.Sc.Scan3
import SaphyrModel.Sc.KeepsAttr
import SaphyrModel.Sc.Keeps
import SaphyrModel.Sc.Frame
import SaphyrModel.Sc.InOp
import SaphyrModel.Sc.Layers
import SaphyrModel.Sc.KeepsScan
import SaphyrModel.Sc.KeepsFetch
import SaphyrModel.Sc.Inv
import SaphyrModel.Sc.Struct
import SaphyrModel.Sc.Assemble
import SaphyrModel.Sc.KS
import SaphyrModel.Sc.MI
import SaphyrModel.Sc.NT
import SaphyrModel.Sc.TokOrd
import SaphyrModel.Spec.Positions
import SaphyrModel.Spec.CoreSchema
import SaphyrModel.Driver.Codec
import SaphyrModel.Proofs.Run
import SaphyrModel.Proofs.History
import SaphyrModel.Proofs.Erase
import SaphyrModel.Proofs.TokTree
import SaphyrModel.Proofs.Term
import SaphyrModel.Proofs.TermRun
import SaphyrModel.Proofs.PushPull
import SaphyrModel.Proofs.IntParse
import SaphyrModel.Proofs.FloatParse
import SaphyrModel.Proofs.TokLoad
import SaphyrModel.Proofs.TokDocs
import SaphyrModel.Proofs.StrEval
import SaphyrModel.Proofs.DqDecode
import SaphyrModel.Props.C01
import SaphyrModel.Props.C02
import SaphyrModel.Props.C03
import SaphyrModel.Props.C04
import SaphyrModel.Props.C05
import SaphyrModel.Props.C06
import SaphyrModel.Props.C07
import SaphyrModel.Props.C07Tokens
import SaphyrModel.Props.C08
import SaphyrModel.Props.C09
import SaphyrModel.Props.C10
import SaphyrModel.Props.C11
import SaphyrModel.Props.C12
import SaphyrModel.Props.C13
import SaphyrModel.Props.C14
import SaphyrModel.Props.C15
import SaphyrModel.Props.C16
import SaphyrModel.Props.C17
import SaphyrModel.Props.C18
import SaphyrModel.Props.C19
import SaphyrModel.Props.C20
